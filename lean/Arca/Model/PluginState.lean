/-
The `State()` / `CurrentStage()` side of the plugin provider (`internal/step/plugin/provider.go`), for property C09.

The engine's fallback deadlock detector (`workflow.go`, `checkForDeadlocks`) polls `State()` of every step and fires
when no step is `starting` or `running` (and nothing is ready in the DAG) on `detectorRetries + 1` consecutive polls.
Whether that is sound depends on WHEN `run()` and the `provide*` handlers write `r.state`.  This file models exactly
that, at the granularity at which another goroutine can observe it: every lock region of `run()` and every callback is
one move; a `provide*` handler (which runs entirely under `r.lock`) is one move.

Program counter = "what `run()` does next".  The lock regions and callbacks modelled, in source order:

  deployStage   dLock        lock{ state := running; read deployInputAvailable }
                dCb          OnStageChange(nil -> deploy)
                dTry         first, non-blocking `select` on deployInput
                dGotEarly    (received)  lock{ state := running }
                dSetWaiting  (default)   lock{ state := waiting_for_input }
                dWait        blocking `select { <-deployInput | <-ctx.Done() }`
                dGotLate     (received)  lock{ state := running }
                dDeploying   deployer Create / Deploy            (environment: deployOk | deployFail)
  startPlugin   spCheck      lock{ select ctx.Done -> closedEarly(enabling,false) | default -> container := .. }
  enableStage   eLock        lock{ currentStage := enabling; read enabledInputAvailable; state := waiting_for_input }
                eCb          OnStageChange(deploy -> enabling)
                eWait        `select { <-enabledInput | <-ctx.Done() }`
                eGotTrue     (enabled) OnStepStageFailure(disabled)          -- no state write
  startStage    sTry         NewClient, lock{ atpClient := .. }, non-blocking receive of runInput (decides newState)
                transLock starting newState / transCb starting              -- transitionStageWithOutput
                sCheck       (no early input) lock{ read state }
                sWait        `select { <-runInput | <-ctx.Done() }`
                sGotLate     (received)  lock{ state := running }
                sSchema      ReadSchema .. go Execute                 (environment: startOk | startFail)
  runStage      transLock running running / transCb running
                rWait        waiting for the plugin                     (environment: resultOk | resultErr)
  transitionStageWithOutput(X, st)   transLock X st : lock{ currentStage := X; state := st }, transCb X : OnStageChange
  transitionFromFailedStage(X)       failedLock X   : lock{ currentStage := X; state := running }, failedCb X : OnStepStageFailure(prev)
  completeStep(X)                    complLock X    : lock{ currentStage := X; state := finished }, complCb X : OnStepComplete
  tail         the remaining OnStepStageFailure callbacks and the deferred closes, then `done`

The detector does not look at the raw `r.state` (e0ccfb1): `State()` answers `running` when the input of the
current stage has been provided, and `countStates` compares `CurrentStage()` with the stage the step reported last
(`l.reportedStages`, written when the loop PROCESSES an `OnStageChange`) and looks at `l.completedSteps` (written when it
processes `OnStepComplete`).  The model therefore splits every `OnStageChange` / `OnStepComplete` into the moment the
step is about to call the handler (`dCb`, `eCb`, `transCb X`, `complCb X`: report in flight), the processing by the loop
under `l.lock` (action `deliver`, which updates the loop-side record `reportedStage` / `completed` and, for a report with
a previous stage, runs `checkForDeadlocks`) and the return into `run()` (`dCbRet`, `eCbRet`, `transCbRet X`,
`complCbRet X`).  `OnStepStageFailure` calls (`eGotTrue`, `failedCb X`, `tailFail`) touch neither record nor detector.

`State()` also answers `running` for a raw `waiting_for_input` when the step's context is cancelled (be7655c: a stop
condition or a Close has arrived and `run()` has not reacted yet).

Failure tail (finding F11, loop side): when the loop processes `OnStepComplete` it may call
`markRemainingStagesUnresolvable(stepID)`, which settles every stage the step has not gone through
(`l.finishedStages`).  The model is parametrised by the flag `marks` (= the loop does that); the loop-side record carries
`finishedStages` and `settledStages`, the step carries the stages its post-completion `OnStepStageFailure` notifications
are about (`tailFails` = the argument chain of `markStageFailures` plus `markNotClosable`), and the ghost field `path`
remembers which ending `run()` took.

Core Lean only.
-/

namespace Arca.Model.PluginState

/-- `step.RunningStepState` -/
inductive RState where
  | starting | waiting | running | finished
  deriving DecidableEq, Repr

/-- `r.currentStage` (the stages `run()` ever assigns) -/
inductive Stage where
  | deploy | deployFailed | enabling | disabled | starting | running | outputs | crashed | closed
  deriving DecidableEq, Repr

/-- every stage of the plugin lifecycle `run()` can be in (the `cancelled` stage is never entered) -/
def allStages : List Stage :=
  [.deploy, .deployFailed, .enabling, .disabled, .starting, .running, .outputs, .crashed, .closed]

/-- `markStageFailures(first, _)`: the fall-through chain (tied to `Arca.Gen.pluginFailChain` by
    `Arca.Proofs.PluginState.failChain_matches_source`) -/
def failChain : Stage → List Stage
  | .enabling => [.enabling, .disabled, .starting, .running, .outputs]
  | .disabled => [.disabled, .starting, .running, .outputs]
  | .starting => [.starting, .running, .outputs]
  | .running => [.running, .outputs]
  | .outputs => [.outputs]
  | _ => []

/-- which ending `run()` took (ghost) -/
inductive Path where
  | main                -- no ending chosen yet
  | closedDeploy        -- closedEarly(enabling, true): context done while waiting for the deploy input
  | closedAfterDeploy   -- closedEarly(enabling, false): context done right after the deployment
  | closedEnable        -- closedEarly(starting, true)
  | closedStart         -- closedEarly(running, true)
  | deployFailed        -- deployFailed
  | disabled            -- transitionToDisabled
  | startFailed         -- startFailed
  | runFailed           -- runFailed
  | ok                  -- result without error
  deriving DecidableEq, Repr

/-- the stages the `OnStepStageFailure` notifications AFTER the completion are about, per ending -/
def tailOf : Path → List Stage
  | .main => []
  | .closedDeploy => failChain .enabling
  | .closedAfterDeploy => failChain .enabling
  | .closedEnable => failChain .starting
  | .closedStart => failChain .running
  | .deployFailed => failChain .enabling ++ [.closed]
  | .disabled => failChain .starting ++ [.closed]
  | .startFailed => failChain .running ++ [.closed]
  | .runFailed => failChain .outputs ++ [.closed]
  | .ok => []

inductive Pc where
  | dLock | dCb | dCbRet | dTry | dGotEarly | dSetWaiting | dWait | dGotLate | dDeploying
  | spCheck
  | eLock | eCb | eCbRet | eWait | eGotTrue
  | sTry | sCheck | sWait | sGotLate | sSchema
  | rWait
  | transLock (tgt : Stage) (st : RState)
  | transCb (tgt : Stage)
  | transCbRet (tgt : Stage)
  | failedLock (tgt : Stage)
  | failedCb (tgt : Stage)
  | complLock (tgt : Stage)
  | complCb (tgt : Stage)
  | complCbRet (tgt : Stage)
  | tailFail          -- the OnStepStageFailure calls of markStageFailures / markNotClosable after the completion
  | tailClose         -- the deferred functions: container close, r.cancel(), r.wg.Done()
  | done
  deriving DecidableEq, Repr

structure St where
  pc : Pc
  state : RState          -- r.state
  stage : Stage           -- r.currentStage
  deployAvail : Bool      -- r.deployInputAvailable
  enabledAvail : Bool     -- r.enabledInputAvailable
  runAvail : Bool         -- r.runInputAvailable
  deployOcc : Bool        -- an item sits in r.deployInput   (capacity 1)
  enabledOcc : Bool       -- an item sits in r.enabledInput  (capacity 1)
  enabledVal : Bool       -- .. and its value
  runOcc : Bool           -- an item sits in r.runInput      (capacity 1)
  early : Bool            -- startStage's local `inputReceivedEarly`
  ctxDone : Bool          -- r.ctx cancelled
  tailFails : List Stage  -- the stages of the failure notifications that follow the completion on the chosen ending
  path : Path             -- ghost: the ending chosen
  -- the loop side (workflow.go, under l.lock)
  reportedStage : Option Stage   -- l.reportedStages[stepID]
  completed : Bool               -- stepID ∈ l.completedSteps
  finishedStages : List Stage    -- l.finishedStages[stepID]: the previous stages of the reports processed
  settledStages : List Stage     -- the stages markRemainingStagesUnresolvable has declared unresolvable
  deriving DecidableEq, Repr

/-- the state `Start` returns in -/
def init : St :=
  { pc := .dLock
    state := .starting
    stage := .deploy
    deployAvail := false
    enabledAvail := false
    runAvail := false
    deployOcc := false
    enabledOcc := false
    enabledVal := false
    runOcc := false
    early := false
    ctxDone := false
    tailFails := []
    path := .main
    reportedStage := none
    completed := false
    finishedStages := []
    settledStages := [] }

inductive Act where
  -- the engine (any goroutine): ProvideStageInput / Close / stop condition
  | provideDeploy
  | provideEnabling (enabled : Bool)
  | provideStarting
  | cancel
  -- run(): a move that needs nothing from anybody (lock region, return from a handler, first non-blocking receive)
  | internal
  -- the loop processes the pending OnStageChange / OnStepComplete of this step (onStageComplete under l.lock)
  | deliver
  -- the loop processes a pending OnStepStageFailure of this step
  | deliverFailure
  -- run(): the two branches of a blocking select
  | recv
  | ctx
  -- the plugin side
  | deployOk | deployFail | startOk | startFail | resultOk | resultErr
  deriving DecidableEq, Repr

/-- where `run()` continues after the `OnStageChange` of `transitionStageWithOutput(tgt, ..)` -/
def afterTrans (s : St) : Stage → Option Pc
  | .starting => some (if s.early then .sSchema else .sCheck)
  | .running => some .rWait
  | .outputs => some (.complLock .outputs)
  | .crashed => some (.complLock .crashed)
  | .closed => some (.complLock .closed)
  | .deployFailed => some (.complLock .deployFailed)
  | .disabled => some (.complLock .disabled)
  | .deploy => none
  | .enabling => none

/-- the previous stage an `OnStageChange` into `tgt` reports -/
def prevOf : Stage → Stage
  | .starting => .enabling
  | .disabled => .enabling
  | .running => .starting
  | .outputs => .running
  | .crashed => .running
  | _ => .deploy

/-- choose an ending: remember it and the failure notifications it will send after the completion -/
def choose (s : St) (p : Path) (pc : Pc) : St := { s with pc := pc, path := p, tailFails := tailOf p }

/-- `marks` = the loop calls `markRemainingStagesUnresolvable` when it processes `OnStepComplete` -/
def step (marks : Bool) (s : St) : Act → Option St
  | .provideDeploy =>
    -- provideDeployInput: the only handler that touches r.state
    if s.deployAvail then none
    else some { s with deployAvail := true, deployOcc := true,
                       state := (if s.state = .waiting ∧ s.stage = .deploy then .running else s.state) }
  | .provideEnabling b =>
    if s.enabledAvail then none
    else some { s with enabledAvail := true, enabledOcc := true, enabledVal := b }
  | .provideStarting =>
    if s.runAvail then none
    else some { s with runAvail := true, runOcc := true }
  | .cancel => if s.ctxDone then none else some { s with ctxDone := true }
  | .internal =>
    match s.pc with
    | .dLock => some { s with pc := .dCb, state := .running }
    | .dCbRet => some { s with pc := .dTry }
    | .dTry => if s.deployOcc then some { s with pc := .dGotEarly, deployOcc := false } else some { s with pc := .dSetWaiting }
    | .dGotEarly => some { s with pc := .dDeploying, state := .running }
    | .dSetWaiting => some { s with pc := .dWait, state := .waiting }
    | .dGotLate => some { s with pc := .dDeploying, state := .running }
    | .spCheck => if s.ctxDone then some (choose s .closedAfterDeploy (.transLock .closed .running)) else some { s with pc := .eLock }
    | .eLock => some { s with pc := .eCb, stage := .enabling, state := .waiting }
    | .eCbRet => some { s with pc := .eWait }
    | .sTry =>
      if s.runOcc then some { s with pc := .transLock .starting .running, runOcc := false, early := true }
      else some { s with pc := .transLock .starting .waiting, early := false }
    | .sCheck => some { s with pc := .sWait }
    | .sGotLate => some { s with pc := .sSchema, state := .running }
    | .transLock tgt st => some { s with pc := .transCb tgt, stage := tgt, state := st }
    | .transCbRet tgt => (afterTrans s tgt).map (fun p => { s with pc := p })
    | .failedLock tgt => some { s with pc := .failedCb tgt, stage := tgt, state := .running }
    | .complLock tgt => some { s with pc := .complCb tgt, stage := tgt, state := .finished }
    | .complCbRet tgt => some { s with pc := (if tgt = .outputs then .tailClose else .tailFail) }
    | .tailClose => some { s with pc := .done }
    | _ => none
  | .deliver =>
    match s.pc with
    | .dCb => some { s with pc := .dCbRet, reportedStage := some .deploy }
    | .eCb => some { s with pc := .eCbRet, reportedStage := some .enabling, finishedStages := s.finishedStages ++ [.deploy] }
    | .transCb tgt =>
      if (afterTrans s tgt).isSome then
        some { s with pc := .transCbRet tgt, reportedStage := some tgt, finishedStages := s.finishedStages ++ [prevOf tgt] }
      else none
    | .complCb tgt =>
      some { s with pc := .complCbRet tgt, completed := true, finishedStages := s.finishedStages ++ [tgt],
                    settledStages := (if marks then allStages.filter (fun x => !(s.finishedStages ++ [tgt]).contains x) else []) }
    | _ => none
  | .deliverFailure =>
    match s.pc with
    | .eGotTrue => some { s with pc := .sTry }
    | .failedCb tgt => some { s with pc := .complLock tgt }
    | .tailFail => some { s with pc := .tailClose }
    | _ => none
  | .recv =>
    match s.pc with
    | .dWait => if s.deployOcc then some { s with pc := .dGotLate, deployOcc := false } else none
    | .eWait =>
      if s.enabledOcc then
        some (if s.enabledVal then { s with pc := .eGotTrue, enabledOcc := false }
              else choose { s with enabledOcc := false } .disabled (.transLock .disabled .running))
      else none
    | .sWait => if s.runOcc then some { s with pc := .sGotLate, runOcc := false } else none
    | _ => none
  | .ctx =>
    if s.ctxDone then
      match s.pc with
      | .dWait => some (choose s .closedDeploy (.failedLock .closed))
      | .eWait => some (choose s .closedEnable (.failedLock .closed))
      | .sWait => some (choose s .closedStart (.failedLock .closed))
      | _ => none
    else none
  | .deployOk => if s.pc = .dDeploying then some { s with pc := .spCheck } else none
  | .deployFail => if s.pc = .dDeploying then some (choose s .deployFailed (.transLock .deployFailed .running)) else none
  | .startOk => if s.pc = .sSchema then some { s with pc := .transLock .running .running } else none
  | .startFail => if s.pc = .sSchema then some (choose s .startFailed (.failedLock .crashed)) else none
  | .resultOk => if s.pc = .rWait then some (choose s .ok (.transLock .outputs .running)) else none
  | .resultErr => if s.pc = .rWait then some (choose s .runFailed (.transLock .crashed .running)) else none

/-- everything by which the step moves on WITHOUT a further call of the engine: `run()`'s own moves and the answers of
    the deployer / plugin it is waiting for -/
def progressActs : List Act :=
  [.internal, .deliver, .deliverFailure, .recv, .ctx, .deployOk, .deployFail, .startOk, .startFail, .resultOk, .resultErr]

/-- The step cannot make progress without a further action of the engine: none of the progress moves is possible.
    (No input sits unconsumed in a channel it is selecting on, its context is not cancelled, no report is pending,
    `run()` is not between two of its own actions, and it is not waiting for the deployer or the plugin.)
    `step true`: `marks` only decides a value `deliver` writes at `complCb`, never whether a move exists. -/
def Quiescent (s : St) : Bool := progressActs.all (fun a => (step true s a).isNone)

/-- `currentStageInputAvailable()` -/
def currentStageInputAvailable (s : St) : Bool :=
  match s.stage with
  | .deploy => s.deployAvail
  | .enabling => s.enabledAvail
  | .starting => s.runAvail
  | _ => false

/-- what `State()` returns: a raw `waiting_for_input` is reported as `running` when the input of the current stage has
    been provided (e0ccfb1) or the context is cancelled (be7655c) -/
def reportedState (s : St) : RState :=
  if s.state = .waiting ∧ (currentStageInputAvailable s = true ∨ s.ctxDone = true) then .running else s.state

/-- how `countStates` counts the step (`State()`, then `CurrentStage()` against `l.reportedStages`, `l.completedSteps`;
    the two reads of the step are taken as one snapshot: between them only `run()` can move — inputs are provided under
    `l.lock`, which the poller holds — and a stage change in between only makes the comparison fail towards `running`) -/
def countsAs (s : St) : RState :=
  match reportedState s with
  | .waiting => if s.reportedStage = some s.stage then .waiting else .running
  | .finished => if s.completed then .finished else .running
  | x => x

/-- the refinement is at work: the raw state says `waiting_for_input` / `finished`, the detector counts `running` -/
def Refined (s : St) : Bool :=
  (s.state == .waiting || s.state == .finished) && countsAs s == .running

/-- Nothing but silent local moves is left before `run()` parks or ends: it returns from the handler in which the
    check runs (or has passed the last report) and neither calls the handler again nor finds an input or a cancelled
    context.  (`Quiescent` = parked already.) -/
def Settled (s : St) : Bool :=
  Quiescent s ||
  (match s.pc with
   | .eCbRet => !s.enabledOcc && !s.ctxDone
   | .transCbRet .starting => !s.early && !s.runOcc && !s.ctxDone
   | .sCheck => !s.runOcc && !s.ctxDone
   | .complCbRet .outputs => true
   | .tailClose => true
   | _ => false)

/-- the window that is left after e0ccfb1 when the loop does not mark the remaining stages: the completion has been processed, the `OnStepStageFailure` notifications
    that follow it (`markStageFailures`, `markNotClosable`: every ending except the successful one) have not -/
def inFailureTail (s : St) : Bool :=
  match s.pc with
  | .complCbRet tgt => tgt != .outputs
  | .tailFail => true
  | _ => false

/-- a report whose processing runs `checkForDeadlocks` (`previousStage != nil`) is pending -/
def checkingReportPending (s : St) : Bool :=
  match s.pc with
  | .eCb => true
  | .transCb _ => true
  | .complCb _ => true
  | _ => false

/-- On every path of its own, `run()` will have such a report processed before it parks or ends. -/
def owesCheck (s : St) : Bool :=
  match s.pc with
  | .dLock | .dCb | .dCbRet | .dTry | .dSetWaiting | .dWait => s.deployOcc || s.ctxDone
  | .eCbRet | .eWait => s.enabledOcc || s.ctxDone
  | .transCbRet .starting => s.early || s.runOcc || s.ctxDone
  | .sCheck | .sWait => s.runOcc || s.ctxDone
  | .complCbRet _ | .tailFail | .tailClose | .done => false
  | _ => true

/-- does executing `acts` from `s` contain the processing of a checking report after which the refinement is no longer
    at work (the check then sees the step as it is) -/
def hasFaithfulCheck (marks : Bool) : St → List Act → Bool
  | _, [] => false
  | s, a :: rest =>
    match step marks s a with
    | some s' => (a == .deliver && checkingReportPending s && !Refined s') || hasFaithfulCheck marks s' rest
    | none => false

/-- the loop-side record -/
def loopView (s : St) : Option Stage × Bool × List Stage × List Stage :=
  (s.reportedStage, s.completed, s.finishedStages, s.settledStages)

/-- Nothing the step still does can change what the loop knows: it is settled, or it is in the failure tail and every
    `OnStepStageFailure` notification still to come is about a stage the loop has already declared unresolvable
    (re-marking an unresolvable node is a no-op in dgraph, and `notifySteps` then finds nothing newly ready). -/
def Harmless (s : St) : Bool :=
  Settled s || (inFailureTail s && s.tailFails.all (fun x => s.settledStages.contains x))

inductive Reachable (marks : Bool) : St → Prop where
  | init : Reachable marks init
  | step {s s' : St} (a : Act) : Reachable marks s → step marks s a = some s' → Reachable marks s'

def execute (marks : Bool) : St → List Act → Option St
  | s, [] => some s
  | s, a :: rest =>
    match step marks s a with
    | some s' => execute marks s' rest
    | none => none

theorem execute_reachable {marks : Bool} {s : St} (hs : Reachable marks s) :
    ∀ (acts : List Act) (t : St), execute marks s acts = some t → Reachable marks t := by
  intro acts
  induction acts generalizing s with
  | nil => intro t h; simp [execute] at h; exact h ▸ hs
  | cons a rest ih =>
    intro t h
    simp only [execute] at h
    split at h
    · rename_i s' hstep
      exact ih (Reachable.step a hs hstep) t h
    · cases h

/-
The windows in which the RAW `r.state` is `waiting_for_input` / `finished` although the step is still moving (finding
F10a; they are the reason for the refinement above), each named after its cause:
* deploy race (`inDeployRace`): the provide handler flips the state only if it sees `waiting_for_input`;
* enable window (`inEnableWindow`): the state is written before the report and the receive, whatever the input flag says;
* start window (`inStartWindow`): a non-blocking receive decides the state, a later lock region writes it;
* completion window (`inCompletionWindow`): `finished` is written before `OnStepComplete` is processed;
* closing window (`inClosingWindow`): the context is cancelled and `run()` has not reacted yet.
In the enable and the start window the provide handler never touches the state.
-/

/-- deployStage: the input arrived between the non-blocking `select` (default branch taken) and the lock region
    that sets `waiting_for_input`; `provideDeployInput` saw `running` and did not flip the state.  The item is in the
    channel or has just been received. -/
def inDeployRace (s : St) : Bool :=
  match s.pc with
  | .dWait => s.deployOcc
  | .dGotLate => true
  | _ => false

/-- enableStage: `state := waiting_for_input` is written unconditionally before the callback and the receive,
    `provideEnablingInput` never touches the state, and nothing sets it back after the receive: the whole stretch from
    the lock region of `enableStage` to the lock region of the next transition, unless `run()` is parked on an empty
    channel. -/
def inEnableWindow (s : St) : Bool :=
  match s.pc with
  | .eCb => true
  | .eCbRet => true
  | .eWait => s.enabledOcc
  | .eGotTrue => true
  | .sTry => true
  | .transLock .starting _ => true
  | .transLock .disabled _ => true
  | _ => false

/-- startStage: waiting/running is decided by a non-blocking receive, written later by
    `transitionStageWithOutput`, and `provideStartingInput` never touches the state. -/
def inStartWindow (s : St) : Bool :=
  match s.pc with
  | .transCb .starting => true
  | .transCbRet .starting => true
  | .sCheck => true
  | .sWait => s.runOcc
  | .sGotLate => true
  | _ => false

/-- completeStep writes `finished` before `OnStepComplete` is delivered; the failure notifications and the
    deferred closes follow. -/
def inCompletionWindow (s : St) : Bool :=
  match s.pc with
  | .complCb _ => true
  | .complCbRet _ => true
  | .tailFail => true
  | .tailClose => true
  | _ => false

/-- the step is being closed: parked with a cancelled context, or on its way into `closedEarly` / `startFailed` -/
def inClosingWindow (s : St) : Bool :=
  match s.pc with
  | .dWait => s.ctxDone
  | .eWait => s.ctxDone
  | .sWait => s.ctxDone
  | .failedLock _ => true
  | _ => false

def InWindow (s : St) : Bool :=
  inDeployRace s || inEnableWindow s || inStartWindow s || inCompletionWindow s || inClosingWindow s

/-- one poll: the states `countStates` saw; idle = no step `starting` or `running`
    (`hasReadyNodes` and `outputDone` are taken as false: the situation in which the detector matters) -/
def idle (poll : List RState) : Bool := poll.all (fun st => st != .starting && st != .running)

/-- `checkForDeadlocks(retries, ..)` over the sequence of polls that follow: it reports `ErrNoMorePossibleSteps` iff this
    poll is idle and `retries <= 0`, re-polls (after the two 5 ms waits) with `retries - 1` iff idle and `retries > 0`,
    and stops as soon as a poll is not idle -/
def detectorFires : Nat → List (List RState) → Bool
  | _, [] => false
  | 0, p :: _ => idle p
  | r + 1, p :: rest => idle p && detectorFires r rest

end Arca.Model.PluginState
