/-
Lockset: a tiny trace model of the Go happens-before relation, just large enough for the lockset argument of C17.

A trace is the list of synchronisation-relevant events of one execution in the order in which they took effect:
`acq t m` / `rel t m` (thread `t` returns from `m.Lock()` / calls `m.Unlock()`), `read t x` / `write t x` (thread `t`
reads / writes location `x`).  Happens-before is the transitive closure of
  * program order: two events of the same thread, in trace order;
  * synchronises-with: a release of mutex `m` and any later acquire of `m`
    (Go memory model: "for any sync.Mutex l and n < m, call n of l.Unlock() is synchronized before call m of l.Lock() returns").
A trace is well formed when a mutex is acquired only while free and released only by its holder.

`lockset_sound`: in a well-formed trace two accesses by different threads that are both made while holding one common
mutex are ordered by happens-before — hence they are not a data race.  Proved by induction over the trace.

Core Lean only.  Atomics, channels, wait groups, `go` statements and context cancellation are NOT modelled: accesses that
rely on them are the explicit exceptions of Props/C17.lean and are validated with the race detector only.
-/
namespace Arca.Model.Lockset

abbrev Tid := Nat
abbrev Mid := Nat
abbrev Loc := Nat

inductive Ev where
  | acq (t : Tid) (m : Mid)
  | rel (t : Tid) (m : Mid)
  | read (t : Tid) (x : Loc)
  | write (t : Tid) (x : Loc)
  deriving DecidableEq, Repr

abbrev Trace := List Ev

def Ev.tid : Ev → Tid
  | .acq t _ => t
  | .rel t _ => t
  | .read t _ => t
  | .write t _ => t

def Ev.accesses (e : Ev) (t : Tid) (x : Loc) : Prop := e = .read t x ∨ e = .write t x

/-- who holds which mutex -/
abbrev Holders := Mid → Option Tid

def noHolders : Holders := fun _ => none

def stepH (h : Holders) : Ev → Holders
  | .acq t m => fun m' => if m' = m then some t else h m'
  | .rel _ m => fun m' => if m' = m then none else h m'
  | _ => h

def runH (h : Holders) : Trace → Holders
  | [] => h
  | e :: es => runH (stepH h e) es

/-- may `e` happen in holder state `h`: acquire only a free mutex, release only a mutex one holds -/
def okEv (h : Holders) : Ev → Prop
  | .acq _ m => h m = none
  | .rel t m => h m = some t
  | _ => True

def WFfrom (h : Holders) : Trace → Prop
  | [] => True
  | e :: es => okEv h e ∧ WFfrom (stepH h e) es

/-- well-formed trace (all mutexes free at the start) -/
def WF (tr : Trace) : Prop := WFfrom noHolders tr

/-- thread `t` holds mutex `m` when the `i`-th event of `tr` happens -/
def holdsAt (tr : Trace) (i : Nat) (t : Tid) (m : Mid) : Prop := runH noHolders (tr.take i) m = some t

/-- happens-before between positions of a trace -/
inductive HB (tr : Trace) : Nat → Nat → Prop where
  | po {i j : Nat} {e₁ e₂ : Ev} : i < j → tr[i]? = some e₁ → tr[j]? = some e₂ → e₁.tid = e₂.tid → HB tr i j
  | sw {i j : Nat} {t₁ t₂ : Tid} {m : Mid} : i < j → tr[i]? = some (.rel t₁ m) → tr[j]? = some (.acq t₂ m) → HB tr i j
  | trans {i j k : Nat} : HB tr i j → HB tr j k → HB tr i k

/-- a data race: two accesses of one location by different threads, at least one a write, unordered -/
def Race (tr : Trace) (i j : Nat) : Prop :=
  ∃ t₁ t₂ x e₁ e₂, tr[i]? = some e₁ ∧ tr[j]? = some e₂ ∧ e₁.accesses t₁ x ∧ e₂.accesses t₂ x ∧ t₁ ≠ t₂ ∧
    (e₁ = .write t₁ x ∨ e₂ = .write t₂ x) ∧ ¬ HB tr i j ∧ ¬ HB tr j i

theorem HB.lt {tr : Trace} {i j : Nat} (h : HB tr i j) : i < j := by
  induction h with
  | po h _ _ _ => exact h
  | sw h _ _ => exact h
  | trans _ _ ih₁ ih₂ => exact Nat.lt_trans ih₁ ih₂

theorem Ev.accesses.tid_eq {e : Ev} {t : Tid} {x : Loc} (h : e.accesses t x) : e.tid = t := by
  rcases h with rfl | rfl <;> rfl

theorem Ev.accesses.unique {e : Ev} {t t' : Tid} {x x' : Loc} (h : e.accesses t x) (h' : e.accesses t' x') :
    t = t' ∧ x = x' := by
  rcases h with rfl | rfl <;> rcases h' with h' | h' <;> cases h' <;> exact ⟨rfl, rfl⟩

theorem runH_append (h : Holders) (xs ys : Trace) : runH h (xs ++ ys) = runH (runH h xs) ys := by
  induction xs generalizing h with
  | nil => rfl
  | cons e es ih => simp [runH, ih]

theorem WFfrom_append (h : Holders) (xs ys : Trace) (hw : WFfrom h (xs ++ ys)) : WFfrom (runH h xs) ys := by
  induction xs generalizing h with
  | nil => exact hw
  | cons e es ih => exact ih _ hw.2

theorem stepH_cases (h : Holders) (e : Ev) (m : Mid) :
    stepH h e m = h m ∨ (∃ t, e = .acq t m ∧ stepH h e m = some t) ∨ (∃ t, e = .rel t m ∧ stepH h e m = none) := by
  cases e with
  | acq t m' | rel t m' => by_cases hm : m = m' <;> simp [stepH, hm]
  | read _ _ | write _ _ => exact .inl rfl

theorem stepH_becomes {h : Holders} {e : Ev} {m : Mid} {t : Tid} (hn : h m ≠ some t) (hs : stepH h e m = some t) :
    e = .acq t m := by
  rcases stepH_cases h e m with h' | ⟨t', rfl, h'⟩ | ⟨t', rfl, h'⟩
  · exact absurd (h' ▸ hs) hn
  · cases h'.symm.trans hs; rfl
  · cases h'.symm.trans hs

theorem stepH_keeps {h : Holders} {e : Ev} {m : Mid} {t : Tid} (hh : h m = some t) (hok : okEv h e) (hne : e ≠ .rel t m) :
    stepH h e m = some t := by
  rcases stepH_cases h e m with h' | ⟨t', rfl, _⟩ | ⟨t', rfl, _⟩
  · rw [h', hh]
  · cases hh.symm.trans hok
  · cases hh.symm.trans hok; exact absurd rfl hne

theorem acquire_found (es : Trace) (h : Holders) (n : Nat) (m : Mid) (t : Tid)
    (hn : h m ≠ some t) (hr : runH h (es.take n) m = some t) :
    ∃ a, a < n ∧ es[a]? = some (.acq t m) := by
  induction es generalizing h n with
  | nil => simp [runH] at hr; exact absurd hr hn
  | cons e es ih =>
    cases n with
    | zero => simp [runH] at hr; exact absurd hr hn
    | succ n =>
      simp only [List.take_succ_cons, runH] at hr
      by_cases hs : stepH h e m = some t
      · exact ⟨0, Nat.succ_pos n, by simp [stepH_becomes hn hs]⟩
      · obtain ⟨a, ha, hget⟩ := ih (stepH h e) n hs hr
        exact ⟨a + 1, Nat.succ_lt_succ ha, by simpa using hget⟩

theorem handover_found (es : Trace) (h : Holders) (n : Nat) (m : Mid) (t₁ t₂ : Tid)
    (hw : WFfrom h es) (hh : h m = some t₁) (hne : t₁ ≠ t₂) (hr : runH h (es.take n) m = some t₂) :
    ∃ k a, k < a ∧ a < n ∧ es[k]? = some (.rel t₁ m) ∧ es[a]? = some (.acq t₂ m) := by
  induction es generalizing h n with
  | nil =>
    simp [runH, hh] at hr; exact absurd hr hne
  | cons e es ih =>
    cases n with
    | zero => simp [runH, hh] at hr; exact absurd hr hne
    | succ n =>
      simp only [List.take_succ_cons, runH] at hr
      by_cases he : e = .rel t₁ m
      · subst he
        have hfree : stepH h (.rel t₁ m) m ≠ some t₂ := by simp [stepH]
        obtain ⟨a, ha, hget⟩ := acquire_found es _ n m t₂ hfree hr
        exact ⟨0, a + 1, Nat.succ_pos a, Nat.succ_lt_succ ha, by simp, by simpa using hget⟩
      · have hkeep := stepH_keeps hh hw.1 he
        obtain ⟨k, a, hka, han, hk, hacq⟩ := ih (stepH h e) n hw.2 hkeep hr
        exact ⟨k + 1, a + 1, Nat.succ_lt_succ hka, Nat.succ_lt_succ han, by simpa using hk, by simpa using hacq⟩

theorem handover (tr : Trace) (hw : WF tr) {i j : Nat} (hij : i ≤ j) {t₁ t₂ : Tid} {m : Mid} (hne : t₁ ≠ t₂)
    (h₁ : holdsAt tr i t₁ m) (h₂ : holdsAt tr j t₂ m) :
    ∃ k a, i ≤ k ∧ k < a ∧ a < j ∧ tr[k]? = some (.rel t₁ m) ∧ tr[a]? = some (.acq t₂ m) := by
  obtain ⟨n, rfl⟩ := Nat.exists_eq_add_of_le hij
  have hw' : WFfrom (runH noHolders (tr.take i)) (tr.drop i) :=
    WFfrom_append _ _ _ (by rw [List.take_append_drop]; exact hw)
  rw [holdsAt, List.take_add, runH_append] at h₂
  obtain ⟨k, a, hka, han, hk, ha⟩ := handover_found (tr.drop i) _ n m t₁ t₂ hw' h₁ hne h₂
  rw [List.getElem?_drop] at hk ha
  exact ⟨i + k, i + a, Nat.le_add_right i k, by omega, by omega, hk, ha⟩

/-- Two accesses by different threads, both made while holding the common mutex `m`, are ordered by happens-before:
    the earlier thread's release of `m` synchronises with the later thread's acquire. -/
theorem lockset_sound (tr : Trace) (hw : WF tr) (i j : Nat) (hij : i < j) (t₁ t₂ : Tid) (x : Loc) (m : Mid)
    (e₁ e₂ : Ev) (hi : tr[i]? = some e₁) (hj : tr[j]? = some e₂)
    (ha₁ : e₁.accesses t₁ x) (ha₂ : e₂.accesses t₂ x) (hne : t₁ ≠ t₂)
    (hl₁ : holdsAt tr i t₁ m) (hl₂ : holdsAt tr j t₂ m) : HB tr i j := by
  obtain ⟨k, a, hik, hka, haj, hk, ha⟩ := handover tr hw (Nat.le_of_lt hij) hne hl₁ hl₂
  -- the release is not the access itself
  have hik' : i < k := by
    refine Nat.lt_of_le_of_ne hik ?_
    rintro rfl
    rcases ha₁ with h | h <;> rw [h] at hi <;> cases hi.symm.trans hk
  exact .trans (.po hik' hi hk ha₁.tid_eq) (.trans (.sw hka hk ha) (.po haj ha hj ha₂.tid_eq.symm))

theorem locked_accesses_ordered (tr : Trace) (hw : WF tr) {i j : Nat} (hij : i ≠ j) {t₁ t₂ : Tid} {x : Loc} {m : Mid}
    {e₁ e₂ : Ev} (hi : tr[i]? = some e₁) (hj : tr[j]? = some e₂)
    (ha₁ : e₁.accesses t₁ x) (ha₂ : e₂.accesses t₂ x)
    (hl₁ : holdsAt tr i t₁ m) (hl₂ : holdsAt tr j t₂ m) : HB tr i j ∨ HB tr j i := by
  by_cases hne : t₁ = t₂
  · have ht : e₁.tid = e₂.tid := by rw [ha₁.tid_eq, ha₂.tid_eq, hne]
    exact (Nat.lt_or_gt_of_ne hij).imp (.po · hi hj ht) (.po · hj hi ht.symm)
  · exact (Nat.lt_or_gt_of_ne hij).imp
      (lockset_sound tr hw i j · t₁ t₂ x m e₁ e₂ hi hj ha₁ ha₂ hne hl₁ hl₂)
      (lockset_sound tr hw j i · t₂ t₁ x m e₂ e₁ hj hi ha₂ ha₁ (Ne.symm hne) hl₂ hl₁)

/-- Lockset discipline: if every access of location `x` in a well-formed trace is made while holding `m`, there is no
    data race on `x`. -/
theorem lockset_discipline_race_free (tr : Trace) (hw : WF tr) (x : Loc) (m : Mid)
    (hd : ∀ i t e, tr[i]? = some e → e.accesses t x → holdsAt tr i t m) :
    ∀ i j, ¬ (Race tr i j ∧ ∃ t e, tr[i]? = some e ∧ e.accesses t x) := by
  intro i j ⟨⟨t₁, t₂, y, e₁, e₂, hi, hj, ha₁, ha₂, hne, _, hn₁, hn₂⟩, t, e, hi', hax⟩
  -- the raced location is x
  obtain rfl : e = e₁ := Option.some.inj (hi'.symm.trans hi)
  obtain ⟨rfl, rfl⟩ := ha₁.unique hax
  have hij : i ≠ j := by
    rintro rfl
    obtain rfl : e = e₂ := Option.some.inj (hi.symm.trans hj)
    exact hne (ha₁.unique ha₂).1
  exact (locked_accesses_ordered tr hw hij hi hj ha₁ ha₂ (hd i t₁ e hi ha₁) (hd j t₂ e₂ hj ha₂)).elim hn₁ hn₂

/-- two unlocked writes of different threads are NOT ordered: the relation is not trivially total -/
theorem unlocked_writes_race : Race [.write 1 0, .write 2 0] 0 1 := by
  have noHB : ∀ i j, ¬ HB [Ev.write 1 0, Ev.write 2 0] i j := by
    intro i j h
    induction h with
    | @po i j e₁ e₂ hlt h₁ h₂ ht =>
      have hj : j < 2 := (List.getElem?_eq_some_iff.mp h₂).1
      obtain ⟨rfl, rfl⟩ : i = 0 ∧ j = 1 := by omega
      cases h₁; cases h₂
      exact absurd ht (by decide)
    | @sw i j t₁ t₂ m hlt h₁ h₂ =>
      have hi : i < 2 := (List.getElem?_eq_some_iff.mp h₁).1
      obtain rfl | rfl : i = 0 ∨ i = 1 := by omega
      all_goals cases h₁
    | trans _ _ ih _ => exact ih
  exact ⟨1, 2, 0, .write 1 0, .write 2 0, rfl, rfl, Or.inr rfl, Or.inr rfl, by decide, Or.inl rfl, noHB _ _, noHB _ _⟩

/-- the same two writes under one mutex: well formed, both hold the mutex, hence ordered -/
def demo : Trace := [.acq 1 7, .write 1 0, .rel 1 7, .acq 2 7, .write 2 0, .rel 2 7]

theorem demo_wf : WF demo := by
  simp [WF, demo, WFfrom, okEv, stepH, noHolders]

theorem demo_ordered : HB demo 1 4 :=
  lockset_sound demo demo_wf 1 4 (by decide) 1 2 0 7 (.write 1 0) (.write 2 0) rfl rfl (Or.inr rfl) (Or.inr rfl)
    (by decide) (by simp [holdsAt, demo, runH, stepH]) (by simp [holdsAt, demo, runH, stepH])

end Arca.Model.Lockset
