/-
M9 — sub-workflow discovery of `engine.go`: `StepWorkflowPaths`, `SubworkflowCache` / `subworkflowCache`,
`checkSubworkflowCycles` and the part of `workflowEngine.Parse` that builds the file cache.

A file system is a finite list `name ↦ content`, where the content is the abstraction of what `FromYAML` returns for
the file: `invalid` (FromYAML returned an error) or the list of steps reduced to the shapes `StepWorkflowPaths` looks
at.  Cache keys are the strings written in `workflow:` fields; the file on disk they denote is `norm key`, where the
parameter `norm` stands for `filepath.Join(absDir, f)` (relative to the context directory; `./a.yaml` and `a.yaml` denote
the same file).  The files the caller hands to `Parse` (`supplied`) are a second such list, read BY KEY: a referenced key
the caller supplied is taken from there and not looked for on disk.  The chain of parent files holds what the Go code
holds: the key of a supplied file, the absolute path (`norm key`) of a loaded one.

`subworkflowCache` is a total function: Lean accepts its termination with the measure "number of files of the file
system that are not yet in the chain + number of supplied keys that are not yet in the chain" — every recursive call
extends the chain by a file that exists, or by a key that is supplied, and is not in it.  `checkCycles` likewise with
the number of keys of the merged contents that are not in the chain.  No fuel is involved.  (The version of the Go
function before commit 9eb8f49 had no chain and no such measure.)

Core Lean only.
-/

namespace Arca.Model.SubWf

/-- a step field as the type assertions of `StepWorkflowPaths` see it -/
inductive Field where
  | str (s : String)   -- a Go string
  | other              -- anything else: list, map, expression object, …
  deriving DecidableEq, Repr

/-- one entry of `wf.Steps` -/
inductive Step where
  | notMap                                                  -- `stepData.(map[any]any)` fails
  | map (kind : Option Field) (workflow : Option Field)     -- `none`: key absent
  deriving DecidableEq, Repr

/-- the abstraction of one file -/
inductive FileContent where
  | invalid                     -- `converter.FromYAML(content)` returns an error
  | wf (steps : List Step)
  deriving DecidableEq, Repr

abbrev FS := List (String × FileContent)

inductive Err where
  | noWorkflowFile   -- ErrNoWorkflowFile: the root file is not in the context
  | missing          -- LoadContext: "error reading file"
  | invalid          -- FromYAML error of a (sub-)workflow file
  | cycle            -- "sub-workflow file … references itself through its foreach steps"
  deriving DecidableEq, Repr

/-- outcome of a Go function `(value, error)` that may also panic.  Since `FromYAML` recovers panics of the expression
    parser (commit 55d02b1) no statement of the discovery produces `panic`; `Arca.Props.C11.subworkflowCache_total` proves it. -/
inductive Outcome (α : Type) where
  | ok (a : α)
  | error (e : Err)
  | panic (site : String)
  deriving Repr

/-- result: the keys of the merged file cache, an error, or a panic -/
abbrev Res := Outcome (List String)

def lookup (fs : FS) (name : String) : Option FileContent :=
  match fs with
  | [] => none
  | (n, c) :: rest => if n = name then some c else lookup rest name

@[simp] theorem lookup_nil (p : String) : lookup [] p = none := rfl

@[simp] theorem lookup_cons_self (n : String) (c : FileContent) (rest : FS) : lookup ((n, c) :: rest) n = some c :=
  if_pos rfl

@[simp] theorem lookup_cons_ne {n p : String} (h : n ≠ p) (c : FileContent) (rest : FS) :
    lookup ((n, c) :: rest) p = lookup rest p :=
  if_neg h

theorem lookup_mem {fs : FS} {p : String} {c : FileContent} (h : lookup fs p = some c) : p ∈ fs.map Prod.fst := by
  induction fs with
  | nil => cases h
  | cons x xs ih => grind [lookup]

/-- the path one step contributes:
    `stepDataMap, ok1 := stepData.(map[any]any)`; `kind, ok1 := stepDataMap["kind"]`; `kindString, isString := kind.(string)`;
    `isString && kindString == "foreach"`; `subworkflowPathString, isString := stepDataMap["workflow"].(string)` -/
def stepPath : Step → Option String
  | .map (some (.str k)) (some (.str w)) => if k = "foreach" then some w else none
  | _ => none

def insertNew (p : String) (acc : List String) : List String :=
  if p ∈ acc then acc else acc ++ [p]

/-- `stepFilePaths[subworkflowPathString] = subworkflowPathString` for the path of one step, if it has one -/
def addStepPath (acc : List String) (s : Step) : List String :=
  match stepPath s with
  | some p => insertNew p acc
  | none => acc

/-- `StepWorkflowPaths`: the key set of the map path ↦ path (duplicates collapse), in first-occurrence order of the step
    list (Go iterates the map in an arbitrary order; every theorem quantifies over all step orders) -/
def stepWorkflowPaths (steps : List Step) : List String :=
  steps.foldl addStepPath []

/-- number of files of the file system that are not in the chain: the termination measure -/
def unvisited (fs : FS) (chain : List String) : Nat :=
  ((fs.map Prod.fst).eraseDups.filter (fun n => !(chain.contains n))).length

/-- `NewFileCacheUsingContext` + `LoadContext`: every referenced file must be readable. `norm` is the path
    normalisation `filepath.Join(absDir, f)` (or `f` itself when absolute) expressed on file-system names: two spellings
    of one file have the same `norm`. -/
def allPresent (norm : String → String) (fs : FS) (paths : List String) : Bool :=
  paths.all (fun p => (lookup fs (norm p)).isSome)

theorem unvisited_append (fs : FS) (chain : List String) (p : String) :
    unvisited fs (chain ++ [p]) =
      (((fs.map Prod.fst).eraseDups.filter (fun n => !(chain.contains n))).filter (fun n => n ≠ p)).length := by
  simp [unvisited, List.filter_filter, Bool.and_comm]

theorem unvisited_lt {fs : FS} {chain : List String} {p : String} {c : FileContent}
    (hl : lookup fs p = some c) (hn : ¬ p ∈ chain) : unvisited fs (chain ++ [p]) < unvisited fs chain := by
  rw [unvisited_append]
  exact List.length_filter_lt_length_iff_exists.mpr ⟨p, by simp [hn, lookup_mem hl], by simp⟩

theorem unvisited_le (fs : FS) (chain : List String) (p : String) : unvisited fs (chain ++ [p]) ≤ unvisited fs chain := by
  rw [unvisited_append]
  exact List.length_filter_le _ _

/-- the files the caller handed to `Parse`: key ↦ content; `none` = a nil `supplied` (the exported `SubworkflowCache`) -/
abbrev Supplied := Option FS

/-- `supplied.ContentByKey(path)`; `none`: the error return -/
def supLookup (sup : Supplied) (p : String) : Option FileContent :=
  match sup with
  | none => none
  | some s => lookup s p

def supFS (sup : Supplied) : FS := sup.getD []

theorem supLookup_supFS {sup : Supplied} {p : String} {c : FileContent} (h : supLookup sup p = some c) :
    lookup (supFS sup) p = some c := by
  cases sup with
  | none => simp [supLookup] at h
  | some s => exact h

/-- the termination measure of the discovery: files of the file system + supplied keys that are not in the chain -/
def measure (fs : FS) (sup : Supplied) (chain : List String) : Nat :=
  unvisited fs chain + unvisited (supFS sup) chain

theorem measure_lt_supplied {fs : FS} {sup : Supplied} {chain : List String} {p : String} {c : FileContent}
    (hs : supLookup sup p = some c) (hn : ¬ p ∈ chain) : measure fs sup (chain ++ [p]) < measure fs sup chain :=
  Nat.add_lt_add_of_le_of_lt (unvisited_le fs chain p) (unvisited_lt (supLookup_supFS hs) hn)

theorem measure_lt_disk {fs : FS} {sup : Supplied} {chain : List String} {p : String} {c : FileContent}
    (hl : lookup fs p = some c) (hn : ¬ p ∈ chain) : measure fs sup (chain ++ [p]) < measure fs sup chain :=
  Nat.add_lt_add_of_lt_of_le (unvisited_lt hl hn) (unvisited_le (supFS sup) chain p)

mutual
/-- `subworkflowCache(wf, rootDir, converter, flowCaches, parentFiles, supplied)`; `steps` is the abstraction of `wf`,
    `flowCaches` the key lists of the caches collected so far, `chain` is `parentFiles`.  A `nil` cache is the empty
    key list (`MergeFileCaches` skips nil caches; `if flowCache != nil` therefore needs no counterpart). All caches are
    created with the same `rootDir`, or are merges of nil caches, so the root directory check of `MergeFileCaches`
    cannot fail here (in the model with root directories: `Arca.Proofs.EngineApi.mergeFileCaches_emptyRootsFirst`,
    `Arca.Props.C20.any_root_accepted`). -/
def subworkflowCache (norm : String → String) (fs : FS) (sup : Supplied) (steps : List Step)
    (flowCaches : List (List String)) (chain : List String) : Res :=
  let paths := stepWorkflowPaths steps
  match loopSupplied norm fs sup chain paths flowCaches with        -- if supplied != nil { for path := range stepWorkflowPaths
  | .error e => .error e
  | .panic s => .panic s
  | .ok flowCaches =>
    let rest := paths.filter (fun p => (supLookup sup p).isNone)    -- what delete(stepWorkflowPaths, path) leaves
    if rest.isEmpty then .ok flowCaches.flatten                     -- return nil, nil / MergeFileCaches(flowCaches...)
    else if allPresent norm fs rest then                            -- NewFileCacheUsingContext + LoadContext
      match loopFiles norm fs sup chain rest flowCaches with        -- for _, ctxFile := range stepFilesCache.Files()
      | .error e => .error e
      | .panic s => .panic s
      | .ok caches => .ok ((caches ++ [rest]).flatten)              -- append(flowCaches, stepFilesCache); MergeFileCaches
    else .error .missing
termination_by (measure fs sup chain, 1, 0)

/-- the loop over the paths the caller supplied; returns the extended `flowCaches` -/
def loopSupplied (norm : String → String) (fs : FS) (sup : Supplied) (chain : List String) (paths : List String)
    (flowCaches : List (List String)) : Outcome (List (List String)) :=
  match paths with
  | [] => .ok flowCaches
  | p :: rest =>
    match hs : supLookup sup p with
    | none => loopSupplied norm fs sup chain rest flowCaches        -- ContentByKey fails: continue
    | some .invalid =>
      if p ∈ chain then .error .cycle else .error .invalid          -- parentFile == path; converter.FromYAML(content)
    | some (.wf sub) =>
      if hc : p ∈ chain then .error .cycle                          -- parentFile == path
      else
        have : measure fs sup (chain ++ [p]) < measure fs sup chain := measure_lt_supplied hs hc
        -- chain := append(append(make(..), parentFiles...), path)
        match subworkflowCache norm fs sup sub flowCaches (chain ++ [p]) with
        | .error e => .error e
        | .panic s => .panic s
        | .ok flowCache => loopSupplied norm fs sup chain rest (flowCaches ++ [flowCache])
termination_by (measure fs sup chain, 0, paths.length)

/-- the loop over the context files; returns the extended `flowCaches` -/
def loopFiles (norm : String → String) (fs : FS) (sup : Supplied) (chain : List String) (files : List String)
    (flowCaches : List (List String)) : Outcome (List (List String)) :=
  match files with
  | [] => .ok flowCaches
  | p :: rest =>
    if hc : norm p ∈ chain then .error .cycle                       -- parentFile == ctxFile.AbsolutePath
    else
      match hl : lookup fs (norm p) with
      | none => .error .missing                                     -- unreachable after LoadContext
      | some .invalid => .error .invalid                            -- converter.FromYAML(ctxFile.Content)
      | some (.wf sub) =>
        have : measure fs sup (chain ++ [norm p]) < measure fs sup chain := measure_lt_disk hl hc
        -- chain := append(append(make(..), parentFiles...), ctxFile.AbsolutePath)
        match subworkflowCache norm fs sup sub flowCaches (chain ++ [norm p]) with
        | .error e => .error e
        | .panic s => .panic s
        | .ok flowCache => loopFiles norm fs sup chain rest (flowCaches ++ [flowCache])
termination_by (measure fs sup chain, 0, files.length)
end

/-- `SubworkflowCache(wf, rootDir, converter, flowCaches)` -/
def subworkflowCacheTop (norm : String → String) (fs : FS) (steps : List Step) : Res :=
  subworkflowCache norm fs none steps [] []

mutual
/-- `checkSubworkflowCycles(wf, contents, converter, parentFiles)`: the references are followed BY KEY in `contents` -/
def checkCycles (ctx : FS) (steps : List Step) (chain : List String) : Outcome Unit :=
  loopCheck ctx chain (stepWorkflowPaths steps)                     -- for _, path := range StepWorkflowPaths(wf)
termination_by (unvisited ctx chain, 1, 0)

def loopCheck (ctx : FS) (chain : List String) (paths : List String) : Outcome Unit :=
  match paths with
  | [] => .ok ()
  | p :: rest =>
    if hc : p ∈ chain then .error .cycle                            -- parentFile == path
    else
      match hl : lookup ctx p with
      | none => loopCheck ctx chain rest                            -- missing: reported when the workflow is prepared
      | some .invalid => .error .invalid                            -- converter.FromYAML(content)
      | some (.wf sub) =>
        have : unvisited ctx (chain ++ [p]) < unvisited ctx chain := unvisited_lt hl hc
        match checkCycles ctx sub (chain ++ [p]) with
        | .error e => .error e
        | .panic s => .panic s
        | .ok () => loopCheck ctx chain rest
termination_by (unvisited ctx chain, 0, paths.length)
end

/-- `files.Contents()` after `MergeFileCaches(stepWorkflowFileCache, files)`: the caller's entries first (they win), then
    the discovered keys with the content of the file they denote -/
def mergedContents (norm : String → String) (fs files : FS) (keys : List String) : FS :=
  files ++ keys.filterMap (fun k => (lookup fs (norm k)).map (fun c => (k, c)))

/-- the file-cache part of `workflowEngine.Parse` for the caller's cache `files`: find the root (by key), convert it,
    collect the sub-workflows (the caller's cache is `supplied`), merge, check the merged contents for reference cycles;
    the result is the key list of the merged cache -/
def parseFiles (norm : String → String) (fs files : FS) (root : String) : Res :=
  match lookup files root with
  | none => .error .noWorkflowFile
  | some .invalid => .error .invalid
  | some (.wf steps) =>
    match subworkflowCache norm fs (some files) steps [] [] with
    | .error e => .error e
    | .panic s => .panic s
    | .ok keys =>                               -- MergeFileCaches(stepWorkflowFileCache, files)
      match checkCycles (mergedContents norm fs files keys) steps [] with
      | .error e => .error e
      | .panic s => .panic s
      | .ok () => .ok (keys ++ files.map Prod.fst)

/-- the cache `cmd/arcaflow/main.go` hands to `Parse`: `NewFileCacheUsingContext(dir, {root: root})` + `LoadContext`, i.e.
    the root workflow alone, as it is on disk -/
def contextCache (norm : String → String) (fs : FS) (root : String) : FS :=
  match lookup fs (norm root) with
  | some c => [(root, c)]
  | none => []

end Arca.Model.SubWf
