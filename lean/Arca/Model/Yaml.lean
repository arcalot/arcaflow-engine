/-
M8 — the engine's own YAML layer (`internal/yaml/parser.go`) and the expression builder of `workflow/yaml.go`.

The model starts at the output alphabet of gopkg.in/yaml.v3 (`YNode`): yaml.v3 is trusted as the byte → node function
(see DESIGN.md section 11); everything the engine itself does with the node tree is mirrored statement by statement.
Every Go panic (index out of range, failed type assertion, `MapKey`/`MapKeys` on a non-map, nil dereference) is an
explicit `panic` outcome, never a default value.

Abstract parameters (`Env`): `parseExpr` — what `expressions.New` does with the text (accept, reject, panic: recovered by `compileExpression`); `stepPath` — capture group 1 of
`stepPathRegex` (`((?:\$.)?steps\.[^.]+)(\..+)`) when `FindStringSubmatch` returns the three parts.  The correspondence
driver takes their values from the real functions.

Core Lean only (this file is linked into `arcadrv`).
-/

namespace Arca.Model.Yaml

/-! ## outcomes -/

/-- outcome of a Go function `(value, error)` that may also panic -/
inductive Out (ε α : Type) where
  | ok (a : α)
  | err (e : ε)
  | panic (site : String)
  deriving Repr

/-- outcome of a Go function without an error result that may panic -/
inductive PRes (α : Type) where
  | ok (a : α)
  | panic (site : String)
  deriving Repr

def Out.isPanic {ε α : Type} : Out ε α → Bool
  | .panic _ => true
  | _ => false

def PRes.isPanic {α : Type} : PRes α → Bool
  | .panic _ => true
  | _ => false

/-! ## the yaml.v3 node alphabet -/

/-- `yaml.Node` as `parser.transform` reads it: `Kind`, `Tag`, `Value`, `Content`.
    `empty` is the zero node (Kind 0: what `yaml.Unmarshal` leaves for an empty stream); the content of a mapping is
    kept as key/value pairs (yaml.v3 always produces an even number of children); `alias` stands for `AliasNode`
    (every kind outside the four handled ones takes the `default:` branch). -/
inductive YNode where
  | empty
  | doc (content : List YNode)
  | map (tag value : String) (entries : List (YNode × YNode))
  | seq (tag value : String) (items : List YNode)
  | scalar (tag value : String)
  | alias (value : String)
  deriving Repr

def YNode.isScalar : YNode → Bool
  | .scalar _ _ => true
  | _ => false

/-! ## the engine's simplified node -/

/-- `yaml.TypeID` is a Go string type; `other` stands for every value outside the three constants. -/
inductive TypeID where
  | map | seq | str | other
  deriving DecidableEq, Repr

/-- `internal/yaml.node` -/
inductive Node where
  | mk (typeID : TypeID) (tag : String) (contents : List Node) (value : String)
  deriving Repr

def Node.typeID : Node → TypeID
  | .mk t _ _ _ => t
def Node.tag : Node → String
  | .mk _ t _ _ => t
def Node.contents : Node → List Node
  | .mk _ _ c _ => c
def Node.value : Node → String
  | .mk _ _ _ v => v

inductive ParseErr where
  | emptyFile        -- "empty YAML file given"
  | unsupportedKind  -- "unsupported node type"
  | nonScalarKey     -- "unsupported map key ...: map keys must be scalars"
  deriving DecidableEq, Repr

def keysScalar (entries : List (YNode × YNode)) : Bool :=
  entries.all (fun e => e.1.isScalar)

/-! ## `parser.transform` -/

mutual
/-- `func (p parser) transform(n *yaml.Node) (Node, error)` -/
def transform : YNode → Out ParseErr Node
  | .empty => .err .emptyFile                                   -- case 0
  | .doc [] => .panic "transform: n.Content[0] (index out of range)"
  | .doc (c :: _) => transform c                                -- case yaml.DocumentNode: return p.transform(n.Content[0])
  | .alias _ => .err .unsupportedKind                           -- default:
  | .scalar tag v => .ok (.mk .str tag [] v)                    -- a scalar has no Content
  | .seq tag v items =>
    match transformList items with
    | .ok cs => .ok (.mk .seq tag cs v)
    | .err e => .err e
    | .panic s => .panic s
  | .map tag v entries =>
    -- if n.Kind == yaml.MappingNode { for i := 0; i < len(n.Content); i += 2 { if n.Content[i].Kind != yaml.ScalarNode {
    if keysScalar entries then
      match transformEntries entries with
      | .ok cs => .ok (.mk .map tag cs v)
      | .err e => .err e
      | .panic s => .panic s
    else .err .nonScalarKey

/-- the loop `for i, subNode := range n.Content` of a sequence -/
def transformList : List YNode → Out ParseErr (List Node)
  | [] => .ok []
  | x :: xs =>
    match transform x with
    | .ok n =>
      match transformList xs with
      | .ok ns => .ok (n :: ns)
      | .err e => .err e
      | .panic s => .panic s
    | .err e => .err e
    | .panic s => .panic s

/-- the same loop over the (key, value, key, value, …) content of a mapping -/
def transformEntries : List (YNode × YNode) → Out ParseErr (List Node)
  | [] => .ok []
  | (k, v) :: rest =>
    match transform k with
    | .ok kn =>
      match transform v with
      | .ok vn =>
        match transformEntries rest with
        | .ok ns => .ok (kn :: vn :: ns)
        | .err e => .err e
        | .panic s => .panic s
      | .err e => .err e
      | .panic s => .panic s
    | .err e => .err e
    | .panic s => .panic s
end

/-! ## `node.Raw`, `node.MapKeys`, `node.MapKey` -/

/-- the `any` that `Raw()` returns: `string | map[string]any | []any` -/
inductive RawVal where
  | str (s : String)
  | map (kvs : List (String × RawVal))   -- in insertion order; a later duplicate overwrites (Go map assignment)
  | seq (xs : List RawVal)
  deriving Repr

mutual
/-- `func (n node) Raw() any` -/
def raw : Node → PRes RawVal
  | .mk .str _ _ v => .ok (.str v)
  | .mk .map _ cs _ =>
    match rawPairs cs with
    | .ok kvs => .ok (.map kvs)
    | .panic s => .panic s
  | .mk .seq _ cs _ =>
    match rawList cs with
    | .ok xs => .ok (.seq xs)
    | .panic s => .panic s
  | .mk .other _ _ _ => .panic "Raw: bug: unexpected type ID"

/-- `for i := 0; i < len(n.contents); i += 2 { key := n.contents[i].Raw().(string); value := n.contents[i+1].Raw() … }` -/
def rawPairs : List Node → PRes (List (String × RawVal))
  | [] => .ok []
  | [_] => .panic "Raw: n.contents[i+1] (index out of range)"
  | k :: v :: rest =>
    match raw k with
    | .panic s => .panic s
    | .ok (.str key) =>
      match raw v with
      | .panic s => .panic s
      | .ok val =>
        match rawPairs rest with
        | .panic s => .panic s
        | .ok kvs => .ok ((key, val) :: kvs)
    | .ok _ => .panic "Raw: n.contents[i].Raw().(string) (type assertion)"

def rawList : List Node → PRes (List RawVal)
  | [] => .ok []
  | x :: xs =>
    match raw x with
    | .panic s => .panic s
    | .ok v =>
      match rawList xs with
      | .panic s => .panic s
      | .ok vs => .ok (v :: vs)
end

/-- loop of `MapKeys`: `result := make([]string, len/2); for i := 0; i < len; i += 2 { result[i/2] = contents[i].Value() }` -/
def mapKeysC : List Node → PRes (List String)
  | [] => .ok []
  | [_] => .panic "MapKeys: result[i/2] (index out of range)"
  | k :: _ :: rest =>
    match mapKeysC rest with
    | .ok ks => .ok (k.value :: ks)
    | .panic s => .panic s

/-- `func (n node) MapKeys() []string` -/
def mapKeys (n : Node) : PRes (List String) :=
  if n.typeID ≠ .map then .panic "MapKeys: node is not a map" else mapKeysC n.contents

/-- loop of `MapKey`: `if key == n.contents[i].Raw() { return n.contents[i+1], true }` (a `string == any` comparison:
    true exactly when the dynamic value is that string) -/
def mapKeyC (key : String) : List Node → PRes (Option Node)
  | [] => .ok none
  | [k] =>
    match raw k with
    | .panic s => .panic s
    | .ok (.str s) => if key = s then .panic "MapKey: n.contents[i+1] (index out of range)" else .ok none
    | .ok _ => .ok none
  | k :: v :: rest =>
    match raw k with
    | .panic s => .panic s
    | .ok (.str s) => if key = s then .ok (some v) else mapKeyC key rest
    | .ok _ => mapKeyC key rest

/-- `func (n node) MapKey(key string) (Node, bool)`; `none` is the `(nil, false)` result -/
def mapKey (n : Node) (key : String) : PRes (Option Node) :=
  if n.typeID ≠ .map then .panic "MapKey: node is not a map" else mapKeyC key n.contents

/-! ## `yamlBuildExpressions` and friends -/

/-- what `expressions.New(text)` does: it returns an expression, returns an error, or — found by the correspondence
    stream: v0.4.6 dereferences a nil token when the text ends in a binary operator, e.g. `1 +` — panics.  Since commit
    55d02b1 the engine calls it only through `compileExpression`, which recovers the panic. -/
inductive ExprRes where
  | compiles | rejected | panics
  deriving DecidableEq, Repr

/-- abstract parameters of the expression builder -/
structure Env where
  /-- `expressions.New(text)` -/
  parseExpr : String → ExprRes
  /-- `stepPathRegex.FindStringSubmatch(text)`: `some capture1` when it returns three parts -/
  stepPath : String → Option String

inductive BuildErr where
  | nonString           -- "<tag> found on non-string node"
  | exprCompile         -- "failed to compile expression"
  | oneofNonMap | oneofNoDisc | oneofDiscNotString | oneofDiscEmpty | oneofNoOptions | oneofOptionsNotMap
  | orDisabledNoMatch   -- "unable to parse expression in !ordisabled"
  | orDisabledCompile   -- "failed to compile auto-generated disable case"
  | optionalTag         -- "unsupported tag in buildOptionalExpression"
  | invalidType         -- "invalid YAML node type"
  deriving DecidableEq, Repr

/-- what `yamlBuildExpressions` returns: strings, maps, lists and the expression objects -/
inductive Tree where
  | str (s : String)
  | expr (src : String)
  | oneof (disc : String) (opts : List (String × Tree))
  | orDisabled (src disabledPath : String)
  | optional (wait : Bool) (src : String)
  | map (kvs : List (String × Tree))
  | seq (xs : List Tree)
  deriving Repr

/-- `compileExpression(expression) (expr, err)`: `expressions.New` under a deferred `recover`; a panic of the expression
    parser becomes the error "malformed expression".  `true`: an expression was returned, `false`: an error. -/
def compileExpression (env : Env) (text : String) : Bool :=
  match env.parseExpr text with
  | .compiles => true
  | .rejected => false      -- return expressions.New(expression)
  | .panics => false        -- defer func() { if r := recover(); r != nil { expr = nil; err = fmt.Errorf(..) } }()

/-- `buildExpression` -/
def buildExpression (env : Env) (n : Node) : Out BuildErr Tree :=
  if n.typeID ≠ .str then .err .nonString
  else if compileExpression env n.value then .ok (.expr n.value)
  else .err .exprCompile

/-- `buildResultOrDisabledExpression` -/
def buildOrDisabled (env : Env) (n : Node) : Out BuildErr Tree :=
  match buildExpression env n with
  | .err e => .err e
  | .panic s => .panic s
  | .ok _ =>
    match env.stepPath n.value with
    | none => .err .orDisabledNoMatch
    | some stepPath =>
      let disabledPath := stepPath ++ ".disabled.output"
      if compileExpression env disabledPath then .ok (.orDisabled n.value disabledPath) else .err .orDisabledCompile

/-- `buildOptionalExpression` -/
def buildOptional (env : Env) (n : Node) : Out BuildErr Tree :=
  if n.tag = "!soft-optional" then
    match buildExpression env n with
    | .ok _ => .ok (.optional false n.value)
    | .err e => .err e
    | .panic s => .panic s
  else if n.tag = "!wait-optional" then
    match buildExpression env n with
    | .ok _ => .ok (.optional true n.value)
    | .err e => .err e
    | .panic s => .panic s
  else .err .optionalTag

/-- termination support: what `MapKey` returns is one of the node's children -/
theorem mapKeyC_mem {key : String} {m : Node} (cs : List Node) (h : mapKeyC key cs = .ok (some m)) : m ∈ cs := by
  fun_induction mapKeyC key cs <;> simp_all

theorem mapKey_sizeOf {n m : Node} {key : String} (h : mapKey n key = .ok (some m)) : sizeOf m < sizeOf n := by
  obtain ⟨t, tag, cs, v⟩ := n
  unfold mapKey at h
  split at h
  · cases h
  · rw [Node.mk.sizeOf_spec]
    exact Nat.lt_of_lt_of_le (List.sizeOf_lt_of_mem (mapKeyC_mem _ h)) (Nat.le_add_right_of_le (Nat.le_add_left _ _))

def Out.mapOk {ε α β : Type} (f : α → β) : Out ε α → Out ε β
  | .ok a => .ok (f a)
  | .err e => .err e
  | .panic s => .panic s

mutual
/-- `yamlBuildExpressions` (with `buildOneOfExpressions` inlined: it is the only builder that recurses) -/
def build (env : Env) (n : Node) : Out BuildErr Tree :=
  -- switch data.Tag()
  if n.tag = "!expr" then buildExpression env n
  else if n.tag = "!oneof" then
    -- buildOneOfExpressions
    if n.typeID ≠ .map then .err .oneofNonMap
    else
      match mapKey n "discriminator" with
      | .panic s => .panic s
      | .ok none => .err .oneofNoDisc
      | .ok (some d) =>
        if d.typeID ≠ .str then .err .oneofDiscNotString
        else if d.value.length = 0 then .err .oneofDiscEmpty
        else
          match h : mapKey n "one_of" with
          | .panic s => .panic s
          | .ok none => .err .oneofNoOptions
          | .ok (some o) =>
            if o.typeID ≠ .map then .err .oneofOptionsNotMap
            else
              match mapKeys o with
              | .panic s => .panic s
              | .ok keys =>
                have : sizeOf o < sizeOf n := mapKey_sizeOf h
                (buildKeys env o keys).mapOk (.oneof d.value)
  else if n.tag = "!ordisabled" then buildOrDisabled env n
  else if n.tag = "!soft-optional" ∨ n.tag = "!wait-optional" then buildOptional env n
  else
    -- switch data.Type()
    match n with
    | .mk .str _ _ v => .ok (.str v)
    | .mk .map tag cs v =>
      match mapKeys (.mk .map tag cs v) with
      | .panic s => .panic s
      | .ok keys => (buildKeys env (.mk .map tag cs v) keys).mapOk .map
    | .mk .seq _ cs _ => (buildList env cs).mapOk .seq
    | .mk .other _ _ _ => .err .invalidType
termination_by (sizeOf n, 1, 0)

/-- `for _, key := range data.MapKeys() { node, _ := data.MapKey(key); result[key], err = yamlBuildExpressions(node, …) }`:
    the `found` result of `MapKey` is discarded, so a key that is not found hands a nil `yaml.Node` to the recursive call,
    whose first statement `data.Tag()` dereferences it. -/
def buildKeys (env : Env) (n : Node) (keys : List String) : Out BuildErr (List (String × Tree)) :=
  match keys with
  | [] => .ok []
  | key :: rest =>
    match h : mapKey n key with
    | .panic s => .panic s
    | .ok none => .panic "yamlBuildExpressions: data.Tag() on a nil node (MapKey did not find the key)"
    | .ok (some m) =>
      have : sizeOf m < sizeOf n := mapKey_sizeOf h
      match build env m with
      | .ok t =>
        match buildKeys env n rest with
        | .ok kvs => .ok ((key, t) :: kvs)
        | .err e => .err e
        | .panic s => .panic s
      | .err e => .err e
      | .panic s => .panic s
termination_by (sizeOf n, 0, keys.length)

/-- `for i, node := range data.Contents() { result[i], err = yamlBuildExpressions(node, …) }` -/
def buildList (env : Env) (l : List Node) : Out BuildErr (List Tree) :=
  match l with
  | [] => .ok []
  | x :: xs =>
    match build env x with
    | .ok t =>
      match buildList env xs with
      | .ok ts => .ok (t :: ts)
      | .err e => .err e
      | .panic s => .panic s
    | .err e => .err e
    | .panic s => .panic s
termination_by (sizeOf l, 0, 0)
end

/-- `yamlBuildExpressions(parsedData, []string{})` as `FromYAML` calls it -/
def buildExpressions (env : Env) (n : Node) : Out BuildErr Tree := build env n

/-! ## the three entry points compared with the implementation -/

/-- `yaml.New().Parse(data)` after yaml.v3 produced `y` -/
def parse (y : YNode) : Out ParseErr Node := transform y

/-- `decodedInput.Raw()` of `engineWorkflow.Run` -/
def parseRaw (y : YNode) : Out ParseErr RawVal :=
  match transform y with
  | .ok n =>
    match raw n with
    | .ok v => .ok v
    | .panic s => .panic s
  | .err e => .err e
  | .panic s => .panic s

inductive FromYamlErr where
  | yaml (e : ParseErr)     -- ErrInvalidWorkflowYAML
  | build (e : BuildErr)    -- ErrInvalidWorkflow from yamlBuildExpressions
  deriving Repr

/-- `FromYAML` up to and including `yamlBuildExpressions` (schema unserialization is outside the model) -/
def fromYamlPrefix (env : Env) (y : YNode) : Out FromYamlErr Tree :=
  match transform y with
  | .ok n =>
    match build env n with
    | .ok t => .ok t
    | .err e => .err (.build e)
    | .panic s => .panic s
  | .err e => .err (.yaml e)
  | .panic s => .panic s

end Arca.Model.Yaml
