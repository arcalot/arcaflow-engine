/-
M1 — values and the expression fragment.

`Val` is the tree of values the engine moves around (the "serialized" form of the plugin SDK: null, bool,
int, float, string, list, map with string keys) plus `gostruct`: some providers hand Go struct values to the
run loop, whose `serializedOutput` stores them as the map of their fields (finding F3, fix 12879a4; see
`Arca.Props.C08.struct_output_needs_serialization`).  Floats are carried as their IEEE-754 bit pattern.

Core Lean only: this file is linked into the `arcadrv` executable.
-/
namespace Arca.Model

inductive Val where
  | null
  | bool (b : Bool)
  | int (i : Int)
  | float (bits : Nat)
  | str (s : String)
  | list (xs : List Val)
  | map (kvs : List (String × Val))
  | gostruct (name : String) (kvs : List (String × Val))
  deriving Repr, Inhabited

mutual
  def Val.beq : Val → Val → Bool
    | .null, .null => true
    | .bool a, .bool b => a == b
    | .int a, .int b => a == b
    | .float a, .float b => a == b
    | .str a, .str b => a == b
    | .list a, .list b => Val.beqList a b
    | .map a, .map b => Val.beqKvs a b
    | .gostruct n a, .gostruct m b => n == m && Val.beqKvs a b
    | _, _ => false
  def Val.beqList : List Val → List Val → Bool
    | [], [] => true
    | x :: xs, y :: ys => Val.beq x y && Val.beqList xs ys
    | _, _ => false
  def Val.beqKvs : List (String × Val) → List (String × Val) → Bool
    | [], [] => true
    | (k, x) :: xs, (l, y) :: ys => k == l && Val.beq x y && Val.beqKvs xs ys
    | _, _ => false
end

instance : BEq Val := ⟨Val.beq⟩

/-- association-list lookup (first match) -/
def lookup {α : Type} (k : String) : List (String × α) → Option α
  | [] => none
  | (k', v) :: rest => if k = k' then some v else lookup k rest

/-- association-list insert-or-replace, keeping position of an existing key -/
def insertKv {α : Type} (k : String) (v : α) : List (String × α) → List (String × α)
  | [] => [(k, v)]
  | (k', v') :: rest => if k = k' then (k, v) :: rest else (k', v') :: insertKv k v rest

theorem lookup_insertKv_self {α : Type} (k : String) (v : α) (l : List (String × α)) :
    lookup k (insertKv k v l) = some v := by
  induction l with
  | nil => simp [insertKv, lookup]
  | cons p rest ih => by_cases h : k = p.1 <;> simp [insertKv, lookup, h, ih]

theorem lookup_insertKv_other {α : Type} (k k₂ : String) (v : α) (l : List (String × α)) (h : k₂ ≠ k) :
    lookup k₂ (insertKv k v l) = lookup k₂ l := by
  induction l with
  | nil => simp [insertKv, lookup, h]
  | cons p rest ih =>
    by_cases h' : k = p.1
    · simp [insertKv, lookup, ← h', h]
    · by_cases h'' : k₂ = p.1 <;> simp [insertKv, lookup, h', h'', ih]

theorem mem_of_lookup {α : Type} {k : String} {v : α} : ∀ {l : List (String × α)}, lookup k l = some v → (k, v) ∈ l
  | [], h => by cases h
  | (k', v') :: rest, h => by
    simp only [lookup] at h
    split at h
    · rename_i hk
      cases h
      rw [hk]; exact List.mem_cons_self
    · exact List.mem_cons_of_mem _ (mem_of_lookup h)

/-- Evaluation errors of the expression fragment (classes, not messages). -/
inductive EvalErr where
  | missingKey (k : String)
  | indexRange (i : Nat)
  | notIndexable
  | callFailed (fn : String)
  | unknownFn (fn : String)
  | badArgs (fn : String)
  deriving Repr, DecidableEq, Inhabited

/-- The expression fragment the generators use: `$`, `.key`, `[n]`, literals and calls of built-ins. -/
inductive Expr where
  | root
  | dot (e : Expr) (k : String)
  | idx (e : Expr) (i : Nat)
  | lit (v : Val)
  | call (fn : String) (args : List Expr)
  deriving Repr, Inhabited

/-- `Val` field access as `expressions.Evaluate` does it on maps. -/
def Val.getKey (v : Val) (k : String) : Except EvalErr Val :=
  match v with
  | .map kvs => match lookup k kvs with
    | some x => .ok x
    | none => .error (.missingKey k)
  | _ => .error .notIndexable

def Val.getIdx (v : Val) (i : Nat) : Except EvalErr Val :=
  match v with
  | .list xs => match xs[i]? with
    | some x => .ok x
    | none => .error (.indexRange i)
  | _ => .error .notIndexable

end Arca.Model
