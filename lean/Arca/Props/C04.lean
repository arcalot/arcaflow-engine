/-
C04 — a step never executes if a prerequisite failed, it is disabled or stopped first.

Run-loop part: the loop hands out a stage input only when every required dependency is resolved (C02) and never once one
of them is unresolvable.  Provider part: the gates of `run()` over the raw stage-input values (`Arca.Model.Gate`).
-/
import Arca.Proofs.LoopDag
import Arca.Proofs.GateInv
import Arca.Gen.Decisions

namespace Arca.Props.C04
open Arca.Model

/-- once a required dependency of a stage is unresolvable, no later reaction of any history provides that stage's input -/
theorem failed_prereq_never_provided (P : Prepared) (fns : Fns) (ord : Order) (hord : OrdOK ord)
    (hP : P.WF) (s : LoopState) (h : LoopDagInv P s) (hist : List Event)
    (id : String) (it : Item) (hit : lookup id P.items = some it) (hk : it.kind = Kind.stage)
    (ed : String × String × Dep) (hed : ed ∈ P.dag.edges) (hto : ed.2.1 = id) (hand : ed.2.2 = Dep.and)
    (hun : statusIs s.dag ed.1 St.unres) :
    ∀ v, Action.provide it.step it.stage v ∉ (runFrom P fns ord s hist).2 :=
  Arca.Model.failed_prereq_never_provided P fns ord hord hP s h hist id it hit hk ed hed hto hand hun

set_option linter.unusedVariables false in -- `hP` is not used; it stays because the property is stated of well-formed workflows
/-- a stage input is provided only with all required dependencies resolved -/
theorem no_start_without_deps (P : Prepared) (fns : Fns) (ord : Order) (hord : OrdOK ord) (s : LoopState) (e : Event)
    (hP : P.WF) (h : LoopDagInv P s) (step stage : String) (v : Val)
    (hp : Action.provide step stage v ∈ (react P fns ord s e).2) :
    ∃ id it, lookup id P.items = some it ∧ it.kind = Kind.stage ∧ it.step = step ∧ it.stage = stage ∧
      (∀ ed ∈ P.dag.edges, ed.2.1 = id → ed.2.2 = Dep.and → statusIs (react P fns ord s e).1.dag ed.1 St.resolved) := by
  obtain ⟨id, it, _, h1, h2, h3, h4, _, _, h7, _⟩ := react_actsOK P fns ord hord s e h _ hp
  exact ⟨id, it, h1, h2, h3, h4, h7⟩

/-- statuses never return to `waiting`: a failed or finished stage stays so -/
theorem status_monotone (P : Prepared) (fns : Fns) (ord : Order) (s : LoopState) (e : Event)
    (h : LoopDagInv P s) (id : String) (st : St) (hst : st ≠ St.waiting) (hs : statusIs s.dag id st) :
    statusIs (react P fns ord s e).1.dag id st :=
  react_status_mono P fns ord s e h id st hst hs

/-! The decisions of `provideEnablingInput` / `provideCancelledInput` are plugged into `Arca.Model.Gate` from the regenerated
facts (`Arca.Gen.pluginEnabledDecision`, `pluginEnabledRefusal`, `pluginStopDecision`, `pluginStopOnce`: extract/decisions.go
reads them from the source on every run).  The workflow loop validates a stage input against the bool schema but hands the
raw value on, so a literal `enabled: false` reaches the provider as the STRING "false".  What C04 needs: no value the
schema READS as false ever enables the step, a value the schema cannot read starts nothing, and a value it reads as true
fires the stop.  The provider reads `enabled` through the bool schema itself (`boolRead`; `arcadrv gate` compares that
table with the real `schema.NewBoolSchema().Unserialize` on every run). -/

open Arca.Model.Gate Arca.Gen

/-- the real provider: decisions as extracted from the current source -/
def pluginCfg : Cfg :=
  { enabledDec := pluginEnabledDecision
    enabledRefuse := pluginEnabledRefusal
    stopDec := pluginStopDecision
    stopOnce := pluginStopOnce }

/-- the extractor understood every decision (otherwise the theorems below would be about `unknown`) -/
theorem decisions_recognised :
    pluginEnabledDecision.known = true ∧ pluginEnabledRefusal.known = true ∧ foreachEnabledDecision.known = true ∧
    foreachEnabledRefusal.known = true ∧ pluginStopDecision.known = true := by
  decide

/-- both providers take the same decisions on `enabled` -/
theorem foreach_decides_like_plugin :
    ∀ i, foreachEnabledDecision.eval i = pluginEnabledDecision.eval i ∧
         foreachEnabledRefusal.eval i = pluginEnabledRefusal.eval i := by
  intro i
  simp [foreachEnabledDecision, pluginEnabledDecision, foreachEnabledRefusal, pluginEnabledRefusal]

/-- `enabled := true; if input["enabled"] != nil { enabled = <bool schema reading> }`: exactly nil and the values the bool
    schema reads as true enable -/
theorem enabled_iff_nil_or_reads_true (i : Option Val) :
    pluginEnabledDecision.eval i = true ↔ (i = none ∨ i = some .null ∨ ∃ v, i = some v ∧ boolRead v = some true) := by
  simp only [pluginEnabledDecision, FieldCond.eval]
  rcases i with _ | v
  · simp [FieldCond.rawNil, FieldCond.rawRead]
  · cases v <;> simp [FieldCond.rawNil, FieldCond.rawRead, boolRead]

theorem foreach_enabled_iff_nil_or_reads_true (i : Option Val) :
    foreachEnabledDecision.eval i = true ↔ (i = none ∨ i = some .null ∨ ∃ v, i = some v ∧ boolRead v = some true) := by
  rw [(foreach_decides_like_plugin i).1]
  exact enabled_iff_nil_or_reads_true i

/-- the provider refuses exactly the present values the bool schema rejects -/
theorem refused_iff_unreadable (i : Option Val) :
    pluginEnabledRefusal.eval i = true ↔ ∃ v, i = some v ∧ v ≠ .null ∧ boolRead v = none := by
  simp only [pluginEnabledRefusal, FieldCond.eval]
  rcases i with _ | v
  · simp [FieldCond.rawNil, FieldCond.rawRead]
  · cases v <;> simp [FieldCond.rawNil, FieldCond.rawRead, boolRead]

theorem not_enabled_of_not_reads_true {v : Val} (hnn : v ≠ .null) (h : boolRead v ≠ some true) :
    pluginEnabledDecision.eval (some v) = false :=
  Bool.eq_false_iff.mpr fun hb => by
    rcases (enabled_iff_nil_or_reads_true (some v)).1 hb with h1 | h1 | ⟨w, h1, h2⟩ <;> cases h1
    · exact hnn rfl
    · exact h h2

/-- **what C04 needs of the enabled gate**: a value the bool schema reads as false (`false`, "false", "no", "off", 0, "0",
    ...) never enables the step -/
theorem false_reading_never_enables (v : Val) (h : boolRead v = some false) :
    pluginEnabledDecision.eval (some v) = false ∧ foreachEnabledDecision.eval (some v) = false := by
  have hnn : v ≠ .null := by intro hv; subst hv; simp [boolRead] at h
  have hp := not_enabled_of_not_reads_true hnn (by rw [h]; decide)
  exact ⟨hp, by rw [(foreach_decides_like_plugin (some v)).1]; exact hp⟩

/-- a value the schema reads as true (the literal `enabled: true` arrives as the string "true") enables -/
theorem true_reading_enables (v : Val) (h : boolRead v = some true) : pluginEnabledDecision.eval (some v) = true :=
  (enabled_iff_nil_or_reads_true (some v)).2 (Or.inr (Or.inr ⟨v, rfl, h⟩))

/-- a value the schema cannot read neither enables nor disables: the input is refused (an error, nothing is sent) -/
theorem unreadable_is_refused (v : Val) (h : boolRead v = none) (hn : v ≠ .null) :
    pluginEnabledRefusal.eval (some v) = true ∧ pluginEnabledDecision.eval (some v) = false ∧
    ∀ s, step pluginCfg s (.provideEnabling (some v)) = none := by
  have hr : pluginEnabledRefusal.eval (some v) = true := (refused_iff_unreadable (some v)).2 ⟨v, rfl, hn, h⟩
  refine ⟨hr, not_enabled_of_not_reads_true hn (by rw [h]; decide), ?_⟩
  · intro s
    simp only [step, pluginCfg, hr]
    split <;> simp

/-- `stop_if`: the stop is applied iff the value is present and is not the Go bool `false` -/
theorem stop_iff_present_and_not_false (i : Option Val) :
    pluginStopDecision.eval i = true ↔ ¬ (i = none ∨ i = some .null ∨ i = some (.bool false)) := by
  simp only [pluginStopDecision, FieldCond.eval]
  rcases i with _ | v
  · simp [FieldCond.rawNil, FieldCond.rawEqBool]
  · cases v <;> simp [FieldCond.rawNil, FieldCond.rawEqBool]

/-- **what C04 needs of the stop gate**: a value the schema reads as true fires the stop -/
theorem true_reading_stop_fires (v : Val) (h : boolRead v = some true) : pluginStopDecision.eval (some v) = true := by
  apply (stop_iff_present_and_not_false (some v)).2
  rintro (hx | hx | hx) <;> cases hx <;> simp [boolRead] at h

/-- the stop condition is accepted once: every later stop input is refused and changes nothing -/
theorem stop_input_accepted_once (s : GState) (i : Option Val) (h : s.stopAvail = true) :
    step pluginCfg s (.provideCancelled i) = none := by
  simp [step, pluginCfg, pluginStopOnce, h]

/-- The decision `input["enabled"] == nil || input["enabled"] == true` on the RAW value, kept as the reason why the provider
    reads `enabled` through the bool schema (d308cbb; kernel-checked witness below): the literal `enabled: true` reaches
    the provider as the string "true", which the schema reads as true and which this decision turns into DISABLED. -/
def oldEnabledDecision : FieldCond := .or .isNil (.eqBool true)

theorem old_decision_reads_true_yet_disabled :
    ∃ v, boolRead v = some true ∧ oldEnabledDecision.eval (some v) = false ∧ pluginEnabledDecision.eval (some v) = true :=
  ⟨.str "true", by decide, by decide, by decide⟩

/-- Still true of the current code, and allowed by C04 (a stopped step does not execute): `stop_if` is declared with the
    `any` schema, "a non-false value cancels the step", and the literal `stop_if: false` reaches the provider as the TEXT
    "false", which is a non-false value although the bool schema reads it as false. -/
theorem reads_false_yet_stopped_counterexample :
    ∃ v, boolRead v = some false ∧ pluginStopDecision.eval (some v) = true :=
  ⟨.str "false", by decide, by decide⟩

/-- under every interleaving of the callers with `run()`, the plugin is handed its input only after an enabling input was
    accepted whose raw value is nil or reads true under the bool schema -/
theorem executes_only_if_enabled (s : GState) (h : Reach pluginCfg s) (he : s.pc = .executing) :
    ∃ i, s.given = some i ∧ (i = none ∨ i = some .null ∨ ∃ v, i = some v ∧ boolRead v = some true) := by
  obtain ⟨i, hg, hev⟩ := (reach_inv h).pass (by simp [he, passed])
  exact ⟨i, hg, (enabled_iff_nil_or_reads_true i).1 hev⟩

/-- once an enabling input whose value reads false was accepted, `run()` never gets past the enable gate: it neither
    announces the starting stage by that path nor executes the plugin -/
theorem false_reading_never_executes (s : GState) (h : Reach pluginCfg s) (v : Val)
    (hg : s.given = some (some v)) (hr : boolRead v = some false) : passed s.pc = false ∧ s.pc ≠ .executing := by
  have hnp : passed s.pc = false := Bool.eq_false_iff.mpr fun hp => by
    obtain ⟨i, hg', hev⟩ := (reach_inv h).pass hp
    cases hg.symm.trans hg'
    exact absurd ((false_reading_never_enables v hr).1.symm.trans hev) (by decide)
  exact ⟨hnp, fun he => by simp [he, passed] at hnp⟩

/-- the disabled end (transitionToDisabled: `disabled.output`) is reached only on an enabling input on which the decision
    is false (that a value reading false never leads past the gate is `false_reading_never_executes`) -/
theorem disabled_reports_disabled (s : GState) (h : Reach pluginCfg s) (hd : s.pc = .disabledEnd) :
    ∃ i, s.given = some i ∧ pluginEnabledDecision.eval i = false :=
  (reach_inv h).dis hd

/-- the closure argument does not depend on what the decisions are -/
theorem stop_before_start_partial_any (c : Cfg) (s : GState) (h : Reach c s) (he : s.stoppedEarly = true) :
    s.pc ≠ .executing := by
  intro hx
  have := ((reach_inv h).early he).2
  simp [hx] at this

/-- a firing stop (or a close) processed while `run()` is still waiting for its deploy input or deploying, or parked in the
    `select` of `enableStage` / `startStage`, ends the step: the plugin is never executed, and if the starting stage had
    not been announced by then it never is.  (Partial: the full clause - "processed before the starting stage was
    announced" - is false for the current code, see `stop_before_start_counterexample`.) -/
theorem stop_before_start_partial (s : GState) (h : Reach pluginCfg s) (he : s.stoppedEarly = true) :
    s.pc ≠ .executing ∧ (s.stoppedBeforeAnnounce = true → s.announced = false) :=
  ⟨stop_before_start_partial_any _ s h he, (reach_inv h).sea he⟩

/-- **F16** (design finding, unchanged code): a stop that is processed BEFORE the step announces its starting stage does
    not always prevent the execution.  Witness: both inputs are already there when the deployment finishes; the stop arrives
    between the context check of `startPlugin` and the `select` of `enableStage`; the `select` finds both cases ready and
    takes the enabled value; the non-blocking receive in `startStage` takes the run input without looking at the context. -/
theorem stop_before_start_counterexample :
    ∃ acts s, exec pluginCfg Gate.init acts = some s ∧ s.stoppedBeforeAnnounce = true ∧ s.pc = .executing :=
  ⟨[.provideDeploy, .recvDeploy, .provideEnabling (some (.str "yes")), .provideStarting, .deployOk,
    .provideCancelled (some (.bool true)), .evalEnableSelect false, .recvRunNonBlocking], _, rfl, by decide, by decide⟩

/-- non-vacuity: the gate lets an enabled, unstopped step through (also on the literal text "true"), disables on the string
    "false", refuses "maybe", closes on a stop and ignores a second stop input -/
example : (exec pluginCfg Gate.init [.provideDeploy, .recvDeploy, .deployOk, .evalEnableSelect false, .provideEnabling none, .recvRunNonBlocking,
    .evalStartSelect false, .provideStarting]).map (·.pc) = some .executing := by decide
example : (exec pluginCfg Gate.init [.provideDeploy, .recvDeploy, .deployOk, .evalEnableSelect false, .provideEnabling (some (.str "true")),
    .recvRunNonBlocking, .evalStartSelect false, .provideStarting]).map (·.pc) = some .executing := by decide
example : (exec pluginCfg Gate.init [.provideDeploy, .recvDeploy, .deployOk, .evalEnableSelect false, .provideEnabling (some (.str "false"))]).map (·.pc)
    = some .disabledEnd := by decide
example : step pluginCfg Gate.init (.provideEnabling (some (.str "maybe"))) = none := by decide
example : (exec pluginCfg Gate.init [.provideDeploy, .recvDeploy, .deployOk, .evalEnableSelect false, .provideCancelled (some (.str "yes")),
    .provideEnabling (some (.bool true)), .provideStarting]).map (·.pc) = some .closedEnd := by decide
example : (exec pluginCfg Gate.init [.provideCancelled none, .provideCancelled (some (.bool true))]).map (·.pc) = none := by decide

end Arca.Props.C04
