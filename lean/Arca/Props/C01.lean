/-
C01 — every workflow run terminates with one output or an error: the run-loop part.  (a)–(e): what no reaction and no run
does; (f)–(h): what the repair of finding F11 achieves (the stages a completed step did not go through are declared
impossible at once, so nothing keeps waiting for them); (i) COMPLETENESS: the loop never ends a finished workflow
silently.  That `Execute` itself returns (the providers deliver their callbacks, `terminateAllSteps` returns) is validated
on generated histories against the real code, not proved (the `engine*` and `prompt*` streams: DESIGN.md, 15.4).
-/
import Arca.Proofs.LoopInv
import Arca.Proofs.LoopSettle
import Arca.Proofs.LoopFinishedCex
import Arca.Proofs.LoopComplete
import Arca.Proofs.LoopCompleteCex
import Arca.Gen.Consts

namespace Arca.Props.C01
open Arca.Model

/-- (a) No reaction of the run loop performs a blocking operation while the run lock is held.  In the model this holds by
construction: `sendErr`, the non-blocking send of `reportError`, drops the error when the buffer is full, and nothing emits
`Action.stuck`; the content is the pin of `reportError` and the differential. -/
theorem no_blocking_send (P : Prepared) (fns : Fns) (ord : Order) (h : List Event) :
    ∀ a ∈ (run P fns ord h).2, a.isStuck = false :=
  reach_no_stuck (runFrom_reach fns ord h _)

/-- (b) At most one workflow output is ever produced, and it is the one stored as the result. -/
theorem at_most_one_output (P : Prepared) (fns : Fns) (ord : Order) (h : List Event) :
    countP Action.isOutput (run P fns ord h).2 ≤ 1 ∧
    ∀ id v, Action.output id v ∈ (run P fns ord h).2 → (run P fns ord h).1.result = some (id, v) :=
  ⟨run_at_most_one_output P fns ord h, run_result P fns ord h⟩

/-- (c) "all outputs marked as unresolvable" is reported at most once per run (re-sent for every further failing
    dependency it fills the error channel until the send blocks: finding F1). -/
theorem no_more_outputs_once (P : Prepared) (fns : Fns) (ord : Order) (h : List Event) :
    countP Action.isNoMoreOutputs (run P fns ord h).2 ≤ 1 :=
  run_noMoreOutputs_once P fns ord h

/-- (d) The number of buffered errors never exceeds the capacity of the channel — for the capacity the current
    source declares (`Arca.Gen.errCap`, regenerated on every run) as for any other. -/
theorem error_buffer_bounded (P : Prepared) (fns : Fns) (ord : Order) (h : List Event) :
    (run P fns ord h).1.errs ≤ P.errCap :=
  reach_errs_le_cap (runFrom_reach fns ord h _) (Nat.zero_le _)

/-- the capacity found in the source leaves room for the two distinct end-of-run errors -/
theorem error_capacity_sufficient : 2 ≤ Arca.Gen.errCap := by decide

/-- (e) The loop dies only through an explicit panic action (the panic sites are the subject of C07). -/
theorem dead_only_by_panic (P : Prepared) (fns : Fns) (ord : Order) (s : LoopState) (e : Event)
    (hs : s.dead = false) (hd : (react P fns ord s e).1.dead = true) :
    ∃ a ∈ (react P fns ord s e).2, a.isPanic = true :=
  react_dead_only_by_panic P fns ord s e hs hd

/--
(f) `completed_step_settles_all_its_stages`.  After a legal completion callback of step `step` has been processed —
in any state reachable by legal callbacks (`LoopDagInv`, `LoopSafeInv`, `FinConv`, alive) — the loop is still alive
and every stage node and every declared stage-output node of `step` is resolved or unresolvable: none is left waiting
(`StepSettled`, spelled out in `stepSettled_iff`).  `EventReports` = the completed stage, if it declares outputs, is
reported with one of them (both providers do).
-/
theorem completed_step_settles_all_its_stages (P : Prepared) (fns : Fns) (ord : Order) (hord : OrdOK ord)
    (hnd : OrdNodup ord) (hP : P.WF2) (s : LoopState) (h : LoopDagInv P s) (hc : LoopSafeInv P s)
    (hd : s.dead = false) (hfc : FinConv P s) (step prev : String) (out : Option (String × Val)) (busy : Bool)
    (hl : LegalEvent P s (.stepComplete step prev out busy)) (hr : EventReports P (.stepComplete step prev out busy)) :
    (react P fns ord s (.stepComplete step prev out busy)).1.dead = false ∧
    StepSettled P (react P fns ord s (.stepComplete step prev out busy)).1.dag step :=
  ⟨(react_legal_inv P fns ord hord hnd hP s _ ⟨h, hc, hd⟩ hl).1.2.2,
    (react_settle P fns ord hord hnd hP s _ h hc hd hfc hl hr).2 step prev out busy rfl⟩

/-- what `StepSettled` says -/
theorem stepSettled_iff (P : Prepared) (g : Graph String) (step : String) :
    StepSettled P g step ↔ ∀ stage, P.declares step stage →
      ¬ statusIs g (stageNodeId step stage) St.waiting ∧
      ∀ o ∈ P.outputsOf step stage, ¬ statusIs g (outputNodeId step stage o) St.waiting := Iff.rfl

/--
(g) `completed_steps_stay_settled`.  Along every legal history from the initial state, every step whose completion
callback was processed is settled in the final state, and the loop is alive.
-/
theorem completed_steps_stay_settled (P : Prepared) (fns : Fns) (ord : Order) (hord : OrdOK ord) (hnd : OrdNodup ord)
    (hP : P.WF2) (h : List Event) (hl : LegalHistory P fns ord (LoopState.init P) h)
    (hr : ∀ e ∈ h, EventReports P e) (step : String)
    (hc : ∃ prev out busy, Event.stepComplete step prev out busy ∈ h) :
    (run P fns ord h).1.dead = false ∧ StepSettled P (run P fns ord h).1.dag step :=
  ⟨(legal_history_never_panics P fns ord hord hnd hP h hl).2,
   (runFrom_settle P fns ord hord hnd hP h _ (init_dag_inv P hP.wf) (init_safe_inv P hP.wf) rfl (init_fin_conv P) hl hr).2
     step hc⟩

/--
(h) `all_steps_completed_nothing_waits_for_a_step`.  If every step of the workflow has completed (the completion
callback of every step that declares a stage is in the legal history), then in the final state
1. the loop is alive and every step node (stage node or declared stage-output node of any step) is settled;
2. a node all of whose dependencies are step nodes has NO outstanding dependency left (`out = []`): nothing keeps it
   waiting for a step;
3. a node with a required (`and`) dependency on a failed (unresolvable) step node is itself unresolvable: consumers of
   a stage the step did not go through fail at once.

Precisely what this covers and what it does not: it is a statement about the dependency graph (statuses and
outstanding-dependency lists).  That a node without outstanding dependencies HAS been taken from the ready set and
processed (group node resolved, output produced / "no more outputs" reported) — the ready-set bookkeeping of
`notifySteps` (`PopReadyNodes` in the same reaction) — is the subject of (i) `quiescent_run_has_verdict` below; it is
also validated on the four F11 shapes and on generated workflows against the real engine by the `prompt` and `engine`
streams of this property, and illustrated by the executable example `demoF_prompt`.
-/
theorem all_steps_completed_nothing_waits_for_a_step (P : Prepared) (fns : Fns) (ord : Order) (hord : OrdOK ord)
    (hnd : OrdNodup ord) (hP : P.WF2) (h : List Event) (hl : LegalHistory P fns ord (LoopState.init P) h)
    (hr : ∀ e ∈ h, EventReports P e)
    (hall : ∀ step stage, P.declares step stage → ∃ prev out busy, Event.stepComplete step prev out busy ∈ h) :
    (run P fns ord h).1.dead = false ∧
    (∀ id, IsStepNode P id → Settled (run P fns ord h).1.dag id) ∧
    (∀ x n, (run P fns ord h).1.dag.find? x = some n →
      (∀ ed ∈ P.dag.edges, ed.2.1 = x → IsStepNode P ed.1) → n.out = []) ∧
    (∀ ed ∈ P.dag.edges, IsStepNode P ed.1 → ed.2.2 = Dep.and → statusIs (run P fns ord h).1.dag ed.1 St.unres →
      statusIs (run P fns ord h).1.dag ed.2.1 St.unres) := by
  have hinv := run_dag_inv P fns ord hP.wf h
  have hset := run_step_nodes_settled fns ord hord hnd hP h hl hr hall
  refine ⟨(legal_history_never_panics P fns ord hord hnd hP h hl).2, hset, ?_, ?_⟩
  · intro x n hn hdeps
    refine no_outstanding_of_settled hinv.inv hn ?_
    intro ed he hto
    rw [hinv.edges] at he
    exact hset _ (hdeps ed he hto)
  · intro ed he hstep hand hun
    have he' : ed ∈ (run P fns ord h).1.dag.edges := by rw [hinv.edges]; exact he
    obtain ⟨n, hn⟩ := Graph.has_iff.1 (hinv.inv.edge_nodes ed he').2
    exact ⟨n, hn, (settled_source hinv.inv he' (hset _ hstep) hn).2 hand hun⟩

/--
(i) `quiescent_run_has_verdict`.  For a well-formed prepared workflow (`WF3`: acyclic graph, outputs are sinks with data,
…), any processing order that is a permutation of the popped nodes (`OrdOK`, `OrdNodup`, `OrdAll`), and any LEGAL
history that starts with `start` and in which every step has completed: the loop is alive and never panicked, and
* an output was produced: it is stored as the result, and its `output` action occurred; or
* "no more outputs" was reported (sent, or dropped because the error buffer was full); or
* an evaluation failure was reported (`evalFailed`, sent or dropped)
(`Verdict`, spelled out in `verdict_iff`).  The run loop never ends a finished workflow silently.  The clauses `WF3` has for
it, `OrdAll`, the initial `start` and the completion of the steps are needed: `quiescent_hypotheses_needed`.
-/
theorem quiescent_run_has_verdict (P : Prepared) (fns : Fns) (ord : Order) (hord : OrdOK ord) (hnd : OrdNodup ord)
    (hall : OrdAll ord) (hP : P.WF3) (input : Val) (rest : List Event)
    (hl : LegalHistory P fns ord (LoopState.init P) (.start input :: rest))
    (hr : ∀ e ∈ rest, EventReports P e)
    (hcomp : ∀ step stage, P.declares step stage → ∃ prev out busy, Event.stepComplete step prev out busy ∈ rest) :
    (run P fns ord (.start input :: rest)).1.dead = false ∧
    (∀ a ∈ (run P fns ord (.start input :: rest)).2, a.isPanic = false) ∧
    Verdict (run P fns ord (.start input :: rest)) := by
  obtain ⟨hnp, hd⟩ := legal_history_never_panics P fns ord hord hnd hP.wf2 _ hl
  refine ⟨hd, hnp, ?_⟩
  rcases run_quiescent hP fns ord hord hnd hall input rest hl hr hcomp with hef | q
  · exact Or.inr (Or.inr hef)
  · rcases q.verdict hP with h1 | h1
    · obtain ⟨p, hres⟩ := Option.isSome_iff_exists.1 h1
      exact Or.inl ⟨p.1, p.2, hres, run_action_of_result P fns ord _ p.1 p.2 hres⟩
    · exact Or.inr (Or.inl h1)

def hasAct (p : Action → Bool) (l : List Action) : Bool := l.any p

/-- what `Verdict` says -/
theorem verdict_iff (r : LoopState × List Action) :
    Verdict r ↔ ((∃ oid v, r.1.result = some (oid, v) ∧ Action.output oid v ∈ r.2) ∨
      (∃ a ∈ r.2, a.isNoMoreOutputs = true) ∨ (∃ a ∈ r.2, a.isEvalFailed = true)) := Iff.rfl

/-! non-vacuity: a concrete workflow on which the loop does produce its output and reports nothing else -/

def demoOut : Item :=
  { kind := .output
    output := "success"
    data := some (.map [("x", .expr (.dot (.dot .root "input") "name"))]) }

def demoP : Prepared :=
  { dag := { nodes := [⟨"input", .waiting, [], []⟩, ⟨"outputs.success", .waiting, [("input", .and)], []⟩],
             edges := [("input", "outputs.success", .and)], ready := [] }
    items := [("input", { kind := .input }), ("outputs.success", demoOut)]
    stages := []
    errCap := Arca.Gen.errCap }

def demoResult : Option (String × Val) :=
  (run demoP (fun fn _ => .error (.unknownFn fn)) id [.start (.map [("name", .str "n")])]).1.result

example : (match demoResult with
    | some (id, v) => id == "success" && v == .map [("x", .str "n")]
    | none => false) = true := by decide +kernel


/-! The hypotheses of `quiescent_run_has_verdict` in decidable form (`Prepared.wf3Clauses`, `legalHistoryB`,
`eventReportsB`, `allCompleteB`, `Arca/Model/LoopCheck.lean`) imply the hypotheses of the theorem
(`Arca/Proofs/LoopCheckSound.lean`); `quiescent_stmt` is the theorem in that form.  Of these the DRIVER evaluates `wf3Clauses` on every real prepared workflow (`wf3Violated`) and
`legalEventB` on every delivered event; that outputs are reported and that every step has completed it checks by its own
`legalEvent` and `quiescentHistory` (`Arca/Driver/WfCheck.lean`), not by `eventReportsB` and `allCompleteB`. -/

open Arca.Model.CompleteCex in
theorem quiescent_stmt : QuiescentStmt Prepared.WF3OK OrdPerm StartComplete := by
  rintro P fns ord h ⟨h1, h2, h3⟩ hW hl hr ⟨input, rest, rfl, hc⟩
  exact (quiescent_run_has_verdict P fns ord h1 h2 h3 hW.sound input rest hl
    (fun e he => hr e (List.mem_cons_of_mem _ he)) hc).2.2

/-- which hypotheses of `quiescent_run_has_verdict` are shown to be needed: dropping any one well-formedness clause that
`WF3` has for it (`output_sink`: see `ready_empty_needs_output_sink`, C03), `OrdAll`, the initial `start`, or the completion of the
steps makes the statement false (`Arca/Proofs/LoopCompleteCex.lean`) -/
theorem quiescent_hypotheses_needed :
    let Q := Arca.Model.CompleteCex.QuiescentStmt
    let A := Arca.Model.CompleteCex.AllBut
    let O := Arca.Model.CompleteCex.OrdPerm
    let H := Arca.Model.CompleteCex.StartComplete
    ¬ Q (A "acyclic") O H ∧ ¬ Q (A "has_input") O H ∧ ¬ Q (A "input_id") O H ∧ ¬ Q (A "stage_declared") O H ∧
    ¬ Q (A "items_nodup") O H ∧ ¬ Q (A "has_output") O H ∧ ¬ Q (A "output_is_node") O H ∧ ¬ Q (A "output_data") O H ∧
    ¬ Q Prepared.WF3OK (fun ord => OrdOK ord ∧ OrdNodup ord) H ∧
    ¬ Q Prepared.WF3OK O Arca.Model.CompleteCex.AllComplete ∧
    ¬ Q Prepared.WF3OK O Arca.Model.CompleteCex.StartsWithStart :=
  open Arca.Model.CompleteCex in
  ⟨quiescent_needs_acyclic, quiescent_needs_has_input, quiescent_needs_input_id, quiescent_needs_stage_declared,
   quiescent_needs_items_nodup, quiescent_needs_has_output, quiescent_needs_output_is_node, quiescent_needs_output_data,
   quiescent_needs_OrdAll, quiescent_needs_start, quiescent_needs_completion⟩

/-! non-vacuity of `quiescent_run_has_verdict`: `CompleteCex.PX` (step `a` with the stages `s` — output `ok` — and `t`;
the workflow output needs `steps.a.s.ok`) is well-formed, both histories are legal and complete, so the theorem applies;
the verdict is the output in one case and "no more outputs" in the other. -/

open Arca.Model.CompleteCex in
example : Verdict (run PX fns0 id (.start .null :: HXgood)) :=
  (quiescent_run_has_verdict PX fns0 id ordPerm_id.1 ordPerm_id.2.1 ordPerm_id.2.2 PX_wf.sound .null HXgood
    PX_good_legal (all_eventReportsB PX_good_run.2.1) (allCompleteB_sound PX_good_run.2.2.1)).2.2

open Arca.Model.CompleteCex in
example : Verdict (run PX fns0 id (.start .null :: HXbad)) :=
  (quiescent_run_has_verdict PX fns0 id ordPerm_id.1 ordPerm_id.2.1 ordPerm_id.2.2 PX_wf.sound .null HXbad
    PX_bad_legal (all_eventReportsB PX_bad_run.2.1) (allCompleteB_sound PX_bad_run.2.2.1)).2.2

open Arca.Model.CompleteCex in
example : (match (run PX fns0 id (.start .null :: HXgood)).1.result with
    | some (id, v) => id == "o" && v == .str "v"
    | none => false) = true := by decide +kernel
open Arca.Model.CompleteCex in
example : hasAct Action.isNoMoreOutputs (run PX fns0 id (.start .null :: HXgood)).2 = false := PX_good_run.2.2.2.2.2
open Arca.Model.CompleteCex in
example : (run PX fns0 id (.start .null :: HXbad)).1.result.isSome = false := PX_bad_run.2.2.2.2.2.1
open Arca.Model.CompleteCex in
example : hasAct Action.isNoMoreOutputs (run PX fns0 id (.start .null :: HXbad)).2 = true := PX_bad_run.2.2.2.2.2.2

/-! non-vacuity of (f)–(h): `SafeCex.PG` (step `a` with the stages `s` and `t`, `PG_wf2 : PG.WF2`); the step completes
with its stage `t` without ever going through `s`.  The history is legal, so the theorems apply; and what they say is
not trivial: the stage node of `s` IS a node, and it ends up unresolvable instead of waiting. -/

open Arca.Model.SafeCex in
def histPG : List Event := [.start .null, .stepComplete "a" "t" none false]

open Arca.Model.SafeCex in
theorem histPG_legal : LegalHistory PG fns0 id (LoopState.init PG) histPG :=
  legalHistoryB_sound _ _ (by decide +kernel)

open Arca.Model.SafeCex in
theorem histPG_reports : ∀ e ∈ histPG, EventReports PG e := all_eventReportsB (by decide +kernel)

open Arca.Model.SafeCex in
example : StepSettled PG (run PG fns0 id histPG).1.dag "a" :=
  (completed_steps_stay_settled PG fns0 id ordId_ok ordId_nodup PG_wf2 histPG histPG_legal histPG_reports "a"
    ⟨"t", none, false, .tail _ (.head _)⟩).2

open Arca.Model.SafeCex in
example : (∀ x, IsStepNode PG x → Settled (run PG fns0 id histPG).1.dag x) :=
  (all_steps_completed_nothing_waits_for_a_step PG fns0 id ordId_ok ordId_nodup PG_wf2 histPG histPG_legal
    histPG_reports (allCompleteB_sound (by decide +kernel))).2.1

-- the stage the step did not go through is a node of the graph and is unresolvable (not waiting) after the completion
open Arca.Model.SafeCex in
example : (run PG fns0 id histPG).1.dag.statusOf "steps.a.s" = some St.unres := by decide +kernel
open Arca.Model.SafeCex in
example : (run PG fns0 id histPG).1.dag.statusOf "steps.a.t" = some St.resolved := by decide +kernel
-- before the completion it was waiting
open Arca.Model.SafeCex in
example : (run PG fns0 id [.start .null]).1.dag.statusOf "steps.a.s" = some St.waiting := by decide +kernel

/-! an executable illustration of the promptness the repair buys (one of the F11 shapes): the only output of the workflow
needs `$.steps.a.crashed.error`; step `a` SUCCEEDS.  At the completion callback of `a` the loop marks the `crashed` stage
and its output impossible, the output node fails, and "no more outputs" is reported and the run cancelled in that very
reaction — no other step (`b` never ends here) and no deadlock-detector retry is needed. -/

def demoF : Prepared :=
  { dag := { nodes := [⟨"input", .waiting, [], []⟩,
                       ⟨"steps.a.outputs", .waiting, [("input", .and)], []⟩,
                       ⟨"steps.a.outputs.success", .waiting, [("steps.a.outputs", .and)], []⟩,
                       ⟨"steps.a.crashed", .waiting, [("input", .and)], []⟩,
                       ⟨"steps.a.crashed.error", .waiting, [("steps.a.crashed", .and)], []⟩,
                       ⟨"steps.b.outputs", .waiting, [("input", .and)], []⟩,
                       ⟨"outputs.failed", .waiting, [("steps.a.crashed.error", .and)], []⟩],
             edges := [("input", "steps.a.outputs", .and), ("steps.a.outputs", "steps.a.outputs.success", .and),
                       ("input", "steps.a.crashed", .and), ("steps.a.crashed", "steps.a.crashed.error", .and),
                       ("input", "steps.b.outputs", .and), ("steps.a.crashed.error", "outputs.failed", .and)],
             ready := [] }
    items := [("input", { kind := .input }),
              ("steps.a.outputs", { kind := .stage, step := "a", stage := "outputs" }),
              ("steps.a.outputs.success", { kind := .stageOutput, step := "a", stage := "outputs", output := "success" }),
              ("steps.a.crashed", { kind := .stage, step := "a", stage := "crashed" }),
              ("steps.a.crashed.error", { kind := .stageOutput, step := "a", stage := "crashed", output := "error" }),
              ("steps.b.outputs", { kind := .stage, step := "b", stage := "outputs" }),
              ("outputs.failed", { kind := .output, output := "failed",
                                   data := some (.expr (.dot (.dot (.dot (.dot .root "steps") "a") "crashed") "error")) })]
    stages := [("a", [("outputs", ["success"]), ("crashed", ["error"])]), ("b", [("outputs", [])])]
    errCap := Arca.Gen.errCap }

def demoFHist : List Event := [.start .null, .stepComplete "a" "outputs" (some ("success", .map [])) true]


/-- in the reaction to the completion of `a` alone (the run is evaluated once for the five examples below) -/
theorem demoF_prompt :
    (run demoF (fun fn _ => .error (.unknownFn fn)) id demoFHist).2.any Action.isNoMoreOutputs = true ∧
    (run demoF (fun fn _ => .error (.unknownFn fn)) id demoFHist).1.cancelled = true ∧
    (run demoF (fun fn _ => .error (.unknownFn fn)) id demoFHist).1.dag.statusOf "steps.a.crashed.error" = some St.unres ∧
    (run demoF (fun fn _ => .error (.unknownFn fn)) id demoFHist).1.dag.statusOf "outputs.failed" = some St.unres ∧
    (run demoF (fun fn _ => .error (.unknownFn fn)) id demoFHist).1.dag.statusOf "steps.b.outputs" = some St.waiting := by
  decide +kernel

example : hasAct Action.isNoMoreOutputs (run demoF (fun fn _ => .error (.unknownFn fn)) id demoFHist).2 = true :=
  demoF_prompt.1
example : (run demoF (fun fn _ => .error (.unknownFn fn)) id demoFHist).1.cancelled = true := demoF_prompt.2.1
example : (run demoF (fun fn _ => .error (.unknownFn fn)) id demoFHist).1.dag.statusOf "steps.a.crashed.error"
    = some St.unres := demoF_prompt.2.2.1
example : (run demoF (fun fn _ => .error (.unknownFn fn)) id demoFHist).1.dag.statusOf "outputs.failed"
    = some St.unres := demoF_prompt.2.2.2.1
-- the unrelated step `b` is still waiting: the run did not have to wait for it
example : (run demoF (fun fn _ => .error (.unknownFn fn)) id demoFHist).1.dag.statusOf "steps.b.outputs"
    = some St.waiting := demoF_prompt.2.2.2.2
-- without the completion (a mere stage change: the behaviour before the repair) nothing is reported
example : hasAct Action.isNoMoreOutputs (run demoF (fun fn _ => .error (.unknownFn fn)) id
    [.start .null, .stageChange "a" (some "outputs") (some ("success", .map [])) true]).2 = false := by decide +kernel

end Arca.Props.C01
