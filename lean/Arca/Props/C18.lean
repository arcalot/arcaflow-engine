/-
C18 — built-in expression functions are total, typed as declared and obey their laws.

All statements quantify over ALL arguments (every bit pattern, every int64, every string, every list).

Totality and determinism hold for the model by construction: every definition of `Arca.Model.Builtins` is a total
Lean function (`callBuiltin` returns `ok v`, `err`, `notModelled` or `badArgs`, there is no panic constructor to
reach).  That the real functions never panic, are deterministic, return values of their declared type and agree with
the model is the correspondence stream `vharness builtins | arcadrv builtins`; that the functions are still the ones
modelled is the pin `builtins_table_pinned` on the table regenerated from the source on every run.

Floats: `scaled x : Int` is the exact value of the double `x` times 2^1074 (±Inf: ±2^2098), so comparisons of
`scaled` are comparisons of the real values.

Not proved here (not modelled value-exactly, see Model/Builtins.lean): the text produced by floatToString /
floatToFormattedString and the value parsed by stringToFloat.  Their declared-pattern typing and the round trip
`stringToFloat (floatToString x) = x` are checked on the real code by the harness for every generated argument.
-/
import Arca.Proofs.BuiltinsFloat
import Arca.Proofs.BuiltinsRound
import Arca.Proofs.BuiltinsString
import Arca.Gen.Builtins
import Arca.Expected.Builtins

-- as in BuiltinsFloat
set_option exponentiation.threshold 4096

namespace Arca.Props.C18
open Arca.Model Arca.Model.Builtins Arca.Proofs.Builtins

/-- float-to-int truncates toward zero: for a finite `x` with |x| < 2^63 the result `r` satisfies
    |r| ≤ |x| < |r| + 1 and has the sign of `x` (all on exact scaled integers), and lies in the int64 range. -/
theorem floatToInt_trunc (x : Nat) (hn : isNaN x = false) (hr : (scaled x).natAbs < 2 ^ 63 * unit) :
    ∃ r : Int, floatToInt x = some r ∧
      r.natAbs * unit ≤ (scaled x).natAbs ∧ (scaled x).natAbs < (r.natAbs + 1) * unit ∧
      (0 ≤ scaled x → 0 ≤ r) ∧ (scaled x ≤ 0 → r ≤ 0) ∧ minInt64 < r ∧ r ≤ maxInt64 := by
  -- `r` is the exact value truncated toward zero; the clamp of `floatToInt_eq` does nothing in this range
  have hb := div_bounds (scaled x).natAbs unit unit_pos
  have ha : ((scaled x).tdiv unit).natAbs = (scaled x).natAbs / unit := by
    rw [Int.natAbs_tdiv, Int.natAbs_natCast]; rfl
  have hq : (scaled x).natAbs / unit < 2 ^ 63 := (Nat.div_lt_iff_lt_mul unit_pos).2 hr
  refine ⟨(scaled x).tdiv unit, ?_, ha ▸ hb.1, ha ▸ hb.2, ?_, ?_, ?_, ?_⟩
  · rw [floatToInt_eq hn]; unfold minInt64 maxInt64; congr 1; omega
  · intro h; simpa using Int.tdiv_le_tdiv unit_pos' h
  · intro h; simpa using Int.tdiv_le_tdiv unit_pos' h
  · unfold minInt64; omega
  · unfold maxInt64; omega

/-- float-to-int is monotonic on all non-NaN doubles, infinities included -/
theorem floatToInt_monotone (x y : Nat) (a b : Int) (hx : floatToInt x = some a) (hy : floatToInt y = some b)
    (hle : scaled x ≤ scaled y) : a ≤ b := by
  -- truncation toward zero and the clamp are both monotone
  rw [floatToInt_eq (floatToInt_some_not_nan hx)] at hx
  rw [floatToInt_eq (floatToInt_some_not_nan hy)] at hy
  cases hx; cases hy
  have := Int.tdiv_le_tdiv unit_pos' hle
  omega

/-- float-to-int saturates: x ≥ 2^63 gives MaxInt64, x ≤ -2^63 gives MinInt64, the infinities likewise, NaN is the
    only error -/
theorem floatToInt_saturates (x : Nat) :
    (isNaN x = false → (2 ^ 63 * unit : Int) ≤ scaled x → floatToInt x = some maxInt64) ∧
    (isNaN x = false → scaled x ≤ -(2 ^ 63 * unit : Int) → floatToInt x = some minInt64) ∧
    (isInf x = true → floatToInt x = some (if fSign x then minInt64 else maxInt64)) ∧
    (isNaN x = true → floatToInt x = none) ∧
    (isNaN x = false → ∃ r, floatToInt x = some r ∧ minInt64 ≤ r ∧ r ≤ maxInt64) := by
  have hu : (unit : Int) ≠ 0 := Int.ne_of_gt unit_pos'
  refine ⟨fun hn h => ?_, fun hn h => ?_, fun hi => ?_, floatToInt_nan, fun hn => ?_⟩
  · have := Int.tdiv_le_tdiv unit_pos' h
    rw [Int.mul_tdiv_cancel _ hu] at this
    rw [floatToInt_eq hn]; unfold minInt64 maxInt64; congr 1; omega
  · have := Int.tdiv_le_tdiv unit_pos' h
    rw [Int.neg_tdiv, Int.mul_tdiv_cancel _ hu] at this
    rw [floatToInt_eq hn]; unfold minInt64 maxInt64; congr 1; omega
  · unfold floatToInt
    cases hs : fSign x <;> simp [hi]
  · exact ⟨_, floatToInt_eq hn, by omega, by unfold minInt64 maxInt64; omega⟩

/-- int → float is exact for |i| < 2^53 (beyond that it rounds to nearest even: see the examples) -/
theorem intToFloat_exact (i : Int) (h : i.natAbs < 2 ^ 53) :
    scaled (intToFloat i) = i * (unit : Int) ∧ isNaN (intToFloat i) = false := by
  obtain ⟨h1, _, _, h4⟩ := scaled_signed_encode (decide (i < 0)) h
  refine ⟨?_, h4⟩
  rw [intToFloat, h1]
  congr 1
  by_cases hneg : i < 0 <;> simp only [hneg, decide_true, decide_false, if_true, Bool.false_eq_true, if_false] <;> omega

/-- int → float → int is the identity for |i| < 2^53 -/
theorem floatToInt_intToFloat (i : Int) (h : i.natAbs < 2 ^ 53) : floatToInt (intToFloat i) = some i := by
  obtain ⟨hs, hn⟩ := intToFloat_exact i h
  rw [floatToInt_eq hn, hs, Int.mul_tdiv_cancel _ (Int.ne_of_gt unit_pos')]
  unfold minInt64 maxInt64; congr 1; omega

/-- floor: the greatest integer k ≤ x (|x| < 2^52); at and above 2^52 (and for ±Inf, NaN) x itself, which is integral -/
theorem floor_spec (x : Nat) :
    (fExp x < 1075 → ∃ k : Int, scaled (floorBits x) = k * (unit : Int) ∧
        k * (unit : Int) ≤ scaled x ∧ scaled x < (k + 1) * (unit : Int)) ∧
    (fExp x ≥ 1075 → floorBits x = x ∧ unit ∣ scaledAbs x) :=
  ⟨fun h => ⟨scaled x / unit, scaled_floorBits h, Int.ediv_mul_le _ (Int.ne_of_gt unit_pos'),
      Int.lt_ediv_add_one_mul_self _ unit_pos'⟩,
    fun h => ⟨by simp [floorBits, h], integral_big h⟩⟩

/-- ceil: the least integer k ≥ x -/
theorem ceil_spec (x : Nat) :
    (fExp x < 1075 → ∃ k : Int, scaled (ceilBits x) = k * (unit : Int) ∧
        (k - 1) * (unit : Int) < scaled x ∧ scaled x ≤ k * (unit : Int)) ∧
    (fExp x ≥ 1075 → ceilBits x = x ∧ unit ∣ scaledAbs x) :=
  ⟨fun h => by
      -- with `m` the floor of `-x`: `m·unit ≤ -x < (m + 1)·unit`, and the ceiling is `-m`
      have h1 := Int.ediv_mul_le (-scaled x) (Int.ne_of_gt unit_pos')
      have h2 := Int.lt_ediv_add_one_mul_self (-scaled x) unit_pos'
      refine ⟨-(-scaled x / unit), scaled_ceilBits h, ?_, ?_⟩
      · rw [Int.add_mul, Int.one_mul] at h2
        rw [Int.sub_mul, Int.neg_mul, Int.one_mul]; omega
      · rw [Int.neg_mul]; omega,
    fun h => ⟨by simp [ceilBits, h], integral_big h⟩⟩

/-- round: the integer n nearest to |x|, halves away from zero (n ≤ |x| + 1/2 < n + 1), with the sign of x -/
theorem round_spec (x : Nat) :
    (fExp x < 1075 → ∃ n : Nat, scaledAbs (roundBits x) = n * unit ∧ fSign (roundBits x) = fSign x ∧
        n * unit ≤ scaledAbs x + unit / 2 ∧ scaledAbs x + unit / 2 < (n + 1) * unit) ∧
    (fExp x ≥ 1075 → roundBits x = x ∧ unit ∣ scaledAbs x) :=
  ⟨scaledAbs_roundBits x, fun h => ⟨by simp [roundBits, h], integral_big h⟩⟩

/-- abs clears the sign bit and nothing else (also of a NaN).  `hx`: `fSign`, `fExp` and `fMant` reduce modulo 2, 2048
    and 2^52 and so ignore the bits above bit 63; `absBits` subtracts `2^63` and does not. -/
theorem abs_spec (x : Nat) (hx : x < 2 ^ 64) :
    fSign (absBits x) = false ∧ fExp (absBits x) = fExp x ∧ fMant (absBits x) = fMant x ∧
      scaledAbs (absBits x) = scaledAbs x := by
  -- `x` is its pattern below the sign bit, with the sign bit or without; `absBits x` is that pattern
  have hx' : x = withSign (fSign x) (x % 2 ^ 63) ∧ absBits x = x % 2 ^ 63 := by
    unfold absBits withSign
    cases hs : fSign x <;> simp only [Bool.false_eq_true, if_false, if_true]
    · have : x / 2 ^ 63 % 2 ≠ 1 := by simpa [fSign] using hs
      omega
    · have : x / 2 ^ 63 % 2 = 1 := by simpa [fSign] using hs
      omega
  obtain ⟨_, he, hm⟩ := fields_withSign (fSign x) (Nat.mod_lt x (by decide : 0 < 2 ^ 63))
  rw [← hx'.1] at he hm
  rw [hx'.2]
  exact ⟨(fields_withSign false (Nat.mod_lt x (by decide))).1, he.symm, hm.symm, scaledAbs_congr he.symm hm.symm⟩

/-- int → string → int is the identity on every int64 -/
theorem stringToInt_intToString (i : Int) (hlo : minInt64 ≤ i) (hhi : i ≤ maxInt64) :
    stringToInt (intToString i) = some i := by
  unfold minInt64 at hlo
  unfold maxInt64 at hhi
  unfold stringToInt intToString
  split
  · rw [String.toList_append, Nat.toList_repr, show "-".toList = ['-'] from rfl, List.singleton_append,
      (stringToIntChars_toDigits _).2, if_pos (by omega)]
    congr 1; omega
  · rw [Nat.toList_repr, (stringToIntChars_toDigits _).1, if_pos (by omega)]
    congr 1; omega

/-- bool → string → bool is the identity -/
theorem stringToBool_boolToString (b : Bool) : stringToBool (boolToString b) = some b := by
  cases b <;> decide +kernel

/-- joining the pieces with the separator gives the string back (also for the empty separator) -/
theorem split_join (s sep : String) : joinString sep (splitString s sep) = s := by
  unfold joinString splitString
  rw [List.map_map]
  have : (String.toList ∘ String.ofList) = id := by funext l; simp
  rw [this, List.map_id, join_splitChars, String.ofList_toList]

/-- the number of pieces is the number of (non-overlapping, leftmost-first) occurrences of the separator plus one;
    the empty separator gives one piece per code point -/
theorem split_count (s sep : String) :
    (sep.toList ≠ [] → (splitString s sep).length = countChars s.toList sep.toList + 1) ∧
    (sep.toList = [] → (splitString s sep).length = s.toList.length) := by
  unfold splitString splitChars countChars
  constructor
  · intro h
    cases hs : sep.toList with
    | nil => exact absurd hs h
    | cons a as => simp [length_splitGo]
  · intro h
    simp [h]

theorem bindConstants_length (items : List Val) (c : Val) : (bindConstants items c).length = items.length := by
  simp [bindConstants]

/-- the i-th result pairs the i-th item with the constant -/
theorem bindConstants_get (items : List Val) (c : Val) (i : Nat) (h : i < items.length) :
    (bindConstants items c)[i]? = some (Val.map [(constantKey, c), (itemKey, items[i])]) := by
  simp [bindConstants, h]

/-- idempotence on ASCII strings, whatever the case map of the other code points -/
theorem toLower_idempotent (caseMap : Char → Char) (s : String) (hs : s.toList.all isAscii = true) :
    toLowerWith caseMap (toLowerWith caseMap s) = toLowerWith caseMap s :=
  ofList_map_idem _ s fun c hc => lowerChar_idem_ascii caseMap (List.all_eq_true.1 hs c hc)

theorem toUpper_idempotent (caseMap : Char → Char) (s : String) (hs : s.toList.all isAscii = true) :
    toUpperWith caseMap (toUpperWith caseMap s) = toUpperWith caseMap s :=
  ofList_map_idem _ s fun c hc => upperChar_idem_ascii caseMap (List.all_eq_true.1 hs c hc)

/-- idempotence on all strings for a per-code-point map that is itself idempotent -/
theorem toLower_idempotent_of (caseMap : Char → Char)
    (h : ∀ c, lowerChar caseMap (lowerChar caseMap c) = lowerChar caseMap c) (s : String) :
    toLowerWith caseMap (toLowerWith caseMap s) = toLowerWith caseMap s :=
  ofList_map_idem _ s fun c _ => h c

theorem toUpper_idempotent_of (caseMap : Char → Char)
    (h : ∀ c, upperChar caseMap (upperChar caseMap c) = upperChar caseMap c) (s : String) :
    toUpperWith caseMap (toUpperWith caseMap s) = toUpperWith caseMap s :=
  ofList_map_idem _ s fun c _ => h c

/-- whatever satisfies the model's shape contract of floatToString matches the declared output pattern
    `^(?:NaN|[-+]Inf|-?\d+(?:\.\d+)?)$` -/
theorem floatToString_shape_typed (x : Nat) (s : String) (h : floatToStringShape x s = true) :
    floatToStringPattern s = true := by
  unfold floatToStringShape at h
  unfold floatToStringPattern
  split at h
  · simp_all
  · split at h
    · cases hs : fSign x <;> simp_all
    · simp_all

/-- ids, parameter and output descriptors, error flag and handler text of every built-in, as extracted from
    `/repo/internal/builtinfunctions/functions.go` on this run, are the ones the model was written against -/
theorem builtins_table_pinned : Arca.Gen.builtins = Arca.Expected.builtins := by rfl

/-- the functions computing the dynamic output type of bindConstants and the constants they use are unchanged -/
theorem builtins_type_handlers_pinned :
    Arca.Gen.builtinTypeHandlers = Arca.Expected.builtinTypeHandlers ∧ Arca.Gen.builtinConsts = Arca.Expected.builtinConsts :=
  ⟨by rfl, by rfl⟩

/-- the property names of the objects bindConstants builds are the constants of the source -/
theorem bindConstants_keys_pinned :
    Arca.Model.lookup "CombinedObjPropertyConstantName" Arca.Gen.builtinConsts = some constantKey ∧
    Arca.Model.lookup "CombinedObjPropertyItemName" Arca.Gen.builtinConsts = some itemKey := by decide +kernel

/-- the model dispatches exactly the extracted ids with the extracted arities -/
theorem builtins_ids_modelled :
    Arca.Gen.builtins.map (fun r => (r.id, r.params.length)) = modelledIds := by rfl

-- 5.5 → 5, -1.9 → -1, 2^63 → MaxInt64, -Inf → MinInt64, NaN → error
example : floatToInt 0x4016000000000000 = some 5 := by decide +kernel
example : floatToInt 0xbffe666666666666 = some (-1) := by decide +kernel
example : floatToInt 0x43e0000000000000 = some maxInt64 := by decide +kernel
example : floatToInt 0xc3e158e460913d00 = some minInt64 := by decide +kernel   -- -1e19
example : floatToInt 0xfff0000000000000 = some minInt64 := by decide +kernel
example : floatToInt 0x7ff8000000000001 = none := by decide +kernel
-- the hypotheses of floatToInt_trunc are satisfiable (x = -1.9)
example : isNaN 0xbffe666666666666 = false ∧ (scaled 0xbffe666666666666).natAbs < 2 ^ 63 * unit := by decide +kernel
-- monotone: -1.9 ≤ 5.5
example : scaled 0xbffe666666666666 ≤ scaled 0x4016000000000000 := by decide +kernel
-- saturation hypotheses are satisfiable (1e19, -1e19)
example : (2 ^ 63 * unit : Int) ≤ scaled 0x43e158e460913d00 := by decide +kernel
example : scaled 0xc3e158e460913d00 ≤ -(2 ^ 63 * unit : Int) := by decide +kernel
example : stringToInt (intToString minInt64) = some minInt64 := stringToInt_intToString _ (by decide) (by decide)
example : stringToInt "9223372036854775808" = none := by decide +kernel
example : stringToInt "+7" = some 7 ∧ stringToInt "1_000" = none ∧ stringToInt "" = none := by decide +kernel
example : stringToBool "TRUE" = some true ∧ stringToBool "yes" = none := by decide +kernel
example : splitString "a,b,,c" "," = ["a", "b", "", "c"] := by decide +kernel
example : splitString "aaa" "aa" = ["", "a"] ∧ splitString "" "," = [""] ∧ splitString "ab" "" = ["a", "b"] := by decide +kernel
example : joinString "," ["a", "b", "", "c"] = "a,b,,c" := by decide +kernel
example : (bindConstants [.int 1, .int 2] (.str "k")).length = 2 := by decide
example : toLower "MiXeD 1" = "mixed 1" ∧ toUpper "MiXeD 1" = "MIXED 1" := by decide +kernel
example : ("MiXeD 1".toList.all isAscii) = true := by decide +kernel
example : floatToStringShape 0xc014000000000000 "-5" = true := by decide +kernel
-- intToFloat rounds to nearest even: 2^53+1 → 2^53, 2^53+3 → 2^53+4, MaxInt64 → 2^63
example : intToFloat 9007199254740993 = 0x4340000000000000 ∧ intToFloat 9007199254740995 = 0x4340000000000002 ∧
    intToFloat maxInt64 = 0x43e0000000000000 ∧ intToFloat minInt64 = 0xc3e0000000000000 := by decide +kernel
-- floor / ceil / round on -0.5: -1, -0, -1
example : floorBits 0xbfe0000000000000 = 0xbff0000000000000 ∧ ceilBits 0xbfe0000000000000 = 0x8000000000000000 ∧
    roundBits 0xbfe0000000000000 = 0xbff0000000000000 := by decide +kernel

-- 2.5 has exponent below 52: floor_spec / ceil_spec / round_spec apply; round(2.5) = 3, round(-2.5) = -3
example : fExp 0x4004000000000000 < 1075 ∧ roundBits 0x4004000000000000 = 0x4008000000000000 ∧
    roundBits 0xc004000000000000 = 0xc008000000000000 ∧ floorBits 0xc004000000000000 = 0xc008000000000000 ∧
    ceilBits 0x4004000000000000 = 0x4008000000000000 := by decide +kernel
example : floatToInt (intToFloat (-9007199254740991)) = some (-9007199254740991) := floatToInt_intToFloat _ (by decide)
example : absBits 0xfff8000000000001 = 0x7ff8000000000001 ∧ absBits 0x8000000000000000 = 0 := by decide +kernel

end Arca.Props.C18
