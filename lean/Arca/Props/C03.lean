/-
C03 — the run result is the one the workflow's declarative meaning prescribes (run-loop part).  The `output` action whose
value a run returns (C01) is emitted only for a workflow-output node whose required dependencies are resolved and whose
completion dependencies are settled, with its expressions evaluated over the data model; conversely (COMPLETENESS) what is
producible once every step has completed is returned, and if nothing is, "no more outputs" is reported.  The hypotheses
have decidable forms proved sound (which of them the driver evaluates: `Arca.Props.C01.quiescent_stmt`); the same statements
are validated on generated runs of the real engine against the declarative oracle of lib/monitors.py.
-/
import Arca.Proofs.LoopDag
import Arca.Proofs.LoopInv
import Arca.Proofs.LoopComplete
import Arca.Props.C01
import Arca.Proofs.LoopCompleteCex

namespace Arca.Props.C03
open Arca.Model

set_option linter.unusedVariables false in -- `hP` is not used; it stays because the property is stated of well-formed workflows
/-- `result_sound`: a produced output has all its required dependencies produced and carries its expressions' value -/
theorem result_sound (P : Prepared) (fns : Fns) (ord : Order) (hord : OrdOK ord) (s : LoopState) (e : Event)
    (hP : P.WF) (h : LoopDagInv P s) (oid : String) (v : Val)
    (hp : Action.output oid v ∈ (react P fns ord s e).2) :
    ∃ id it d, lookup id P.items = some it ∧ it.kind = Kind.output ∧ it.output = oid ∧ it.data = some d ∧
      (∃ g, resolveIn fns g (react P fns ord s e).1.data d = .ok v) ∧
      (∀ ed ∈ P.dag.edges, ed.2.1 = id → ed.2.2 = Dep.and → statusIs (react P fns ord s e).1.dag ed.1 St.resolved) ∧
      (∀ ed ∈ P.dag.edges, ed.2.1 = id → ed.2.2 = Dep.cand →
          statusIs (react P fns ord s e).1.dag ed.1 St.resolved ∨ statusIs (react P fns ord s e).1.dag ed.1 St.unres) :=
  react_actsOK P fns ord hord s e h _ hp

/-- the returned result is exactly the value of the only output action of the history -/
theorem result_is_the_output (P : Prepared) (fns : Fns) (ord : Order) (h : List Event) :
    countP Action.isOutput (run P fns ord h).2 ≤ 1 ∧
    ∀ id v, Action.output id v ∈ (run P fns ord h).2 → (run P fns ord h).1.result = some (id, v) :=
  ⟨run_at_most_one_output P fns ord h, run_result P fns ord h⟩

/-- output nodes only ever leave the waiting set; a reaction reports "no more outputs" at most once (and a run only once,
    C01), and ONLY when it empties a waiting set that was not empty.  (The converse, that a run in which every output node
    fails does report it, is `no_producible_output_gives_error`.) -/
theorem no_output_reported_when_last_output_fails (P : Prepared) (fns : Fns) (ord : Order) (s : LoopState) (e : Event) :
    (∀ x ∈ (react P fns ord s e).1.waitingOutputs, x ∈ s.waitingOutputs) ∧
    countP Action.isNoMoreOutputs (react P fns ord s e).2 ≤ 1 ∧
    (countP Action.isNoMoreOutputs (react P fns ord s e).2 = 1 →
        s.waitingOutputs ≠ [] ∧ (react P fns ord s e).1.waitingOutputs = []) :=
  reach_noMoreOutputs (react_reach fns ord s e)

/--
`producible_output_is_returned`.  Legal history starting with `start`, every step completed, no evaluation failure
reported.  If the workflow-output node `o` is producible in the final graph (its required dependencies are resolved, and
one of its alternatives if it has any: `Producible`, the condition `result_sound` guarantees of a returned output), then
an output WAS returned.  If `o` is the only producible output node, the returned result is `o`'s: its output id, and the
value `v` of `o`'s own data expressions (`resolveIn … d = .ok v`), carried by the `output` action of the history (to
which `result_sound` applies).
-/
theorem producible_output_is_returned (P : Prepared) (fns : Fns) (ord : Order) (hord : OrdOK ord) (hnd : OrdNodup ord)
    (hall : OrdAll ord) (hP : P.WF3) (input : Val) (rest : List Event)
    (hl : LegalHistory P fns ord (LoopState.init P) (.start input :: rest))
    (hr : ∀ e ∈ rest, EventReports P e)
    (hcomp : ∀ step stage, P.declares step stage → ∃ prev out busy, Event.stepComplete step prev out busy ∈ rest)
    (hnef : ∀ a ∈ (run P fns ord (.start input :: rest)).2, a.isEvalFailed = false)
    (o : String) (it : Item) (hit : lookup o P.items = some it) (hk : it.kind = Kind.output)
    (hprod : Producible P (run P fns ord (.start input :: rest)).1.dag o) :
    (run P fns ord (.start input :: rest)).1.result.isSome = true ∧
    ((∀ x, isOutputNode P x → Producible P (run P fns ord (.start input :: rest)).1.dag x → x = o) →
      ∃ v d, it.data = some d ∧ (run P fns ord (.start input :: rest)).1.result = some (it.output, v) ∧
        Action.output it.output v ∈ (run P fns ord (.start input :: rest)).2 ∧
        ∃ g data, resolveIn fns g data d = .ok v) := by
  rcases run_quiescent hP fns ord hord hnd hall input rest hl hr hcomp with ⟨a, ha, hef⟩ | q
  · rw [hnef a ha] at hef; cases hef
  have hout := q.core.out
  have hoo : isOutputNode P o := ⟨it, hit, hk⟩
  have hres : statusIs (run P fns ord (.start input :: rest)).1.dag o St.resolved :=
    (q.output_status hP hoo).elim (·.1) (fun h => absurd hprod h.2)
  have hsome : (run P fns ord (.start input :: rest)).1.result.isSome = true :=
    hout.done_res ▸ hout.resolved_done o hoo hres
  refine ⟨hsome, fun huniq => ?_⟩
  obtain ⟨⟨oid, v⟩, hresult⟩ := Option.isSome_iff_exists.1 hsome
  obtain ⟨x, itx, d, h1, h2, h3, h4, h5, h6⟩ := hout.res_node oid v hresult
  cases huniq x ⟨itx, h1, h2⟩ (producible_of_resolved q.core.gr.dinv q.closed h5)
  cases lookup_kind_unique hit h1
  subst h3
  exact ⟨v, d, h4, hresult, run_action_of_result P fns ord _ _ v hresult, h6⟩

/--
`no_producible_output_gives_error`.  Legal history starting with `start`, no evaluation failure reported.  If every
workflow-output node is unresolvable in the final graph, then "all outputs marked as unresolvable" was reported exactly
once and no output was returned.
-/
theorem no_producible_output_gives_error (P : Prepared) (fns : Fns) (ord : Order) (hord : OrdOK ord)
    (hnd : OrdNodup ord) (hall : OrdAll ord) (hP : P.WF3) (input : Val) (rest : List Event)
    (hl : LegalHistory P fns ord (LoopState.init P) (.start input :: rest))
    (hnef : ∀ a ∈ (run P fns ord (.start input :: rest)).2, a.isEvalFailed = false)
    (hnone : ∀ x, isOutputNode P x → statusIs (run P fns ord (.start input :: rest)).1.dag x St.unres) :
    countP Action.isNoMoreOutputs (run P fns ord (.start input :: rest)).2 = 1 ∧
    (run P fns ord (.start input :: rest)).1.result = none ∧
    (∀ id v, Action.output id v ∉ (run P fns ord (.start input :: rest)).2) := by
  rcases (run_core hP fns ord hord hnd hall input rest hl).2.2.2 with ⟨a, ha, hef⟩ | ⟨hc, hrd⟩
  · rw [hnef a ha] at hef; cases hef
  obtain ⟨h1, ⟨a, ha, hnmo⟩⟩ := core_all_failed hP hc hrd hnone
  refine ⟨?_, h1, ?_⟩
  · have hle := run_noMoreOutputs_once P fns ord (.start input :: rest)
    have hpos : 0 < countP Action.isNoMoreOutputs (run P fns ord (.start input :: rest)).2 := by
      unfold countP
      exact List.length_pos_of_mem (List.mem_filter.2 ⟨ha, hnmo⟩)
    omega
  · intro id v hm
    have := run_result P fns ord _ id v hm
    rw [h1] at this; cases this

/--
The same with the hypothesis on the dependencies instead of on the statuses: every step completed and NO declared output
is producible in the final graph.
-/
theorem nothing_producible_gives_error (P : Prepared) (fns : Fns) (ord : Order) (hord : OrdOK ord)
    (hnd : OrdNodup ord) (hall : OrdAll ord) (hP : P.WF3) (input : Val) (rest : List Event)
    (hl : LegalHistory P fns ord (LoopState.init P) (.start input :: rest))
    (hr : ∀ e ∈ rest, EventReports P e)
    (hcomp : ∀ step stage, P.declares step stage → ∃ prev out busy, Event.stepComplete step prev out busy ∈ rest)
    (hnef : ∀ a ∈ (run P fns ord (.start input :: rest)).2, a.isEvalFailed = false)
    (hnone : ∀ x, isOutputNode P x → ¬ Producible P (run P fns ord (.start input :: rest)).1.dag x) :
    countP Action.isNoMoreOutputs (run P fns ord (.start input :: rest)).2 = 1 ∧
    (run P fns ord (.start input :: rest)).1.result = none ∧
    (∀ id v, Action.output id v ∉ (run P fns ord (.start input :: rest)).2) := by
  refine no_producible_output_gives_error P fns ord hord hnd hall hP input rest hl hnef fun x hx => ?_
  rcases run_quiescent hP fns ord hord hnd hall input rest hl hr hcomp with ⟨a, ha, hef⟩ | q
  · rw [hnef a ha] at hef; cases hef
  · exact (q.output_status hP hx).elim (fun h => absurd h.2 (hnone x hx)) (·.1)

open Arca.Model.CompleteCex in
/-- `producible_output_is_returned` (first part) with the hypotheses in decidable form (`Arca.Props.C01.quiescent_stmt`) -/
theorem producible_stmt : ProducibleStmt StartComplete NoEF := by
  rintro P fns ord h ⟨h1, h2, h3⟩ hW hl hr ⟨input, rest, rfl, hc⟩ hE o ⟨it, hit, hk⟩ hp
  exact (producible_output_is_returned P fns ord h1 h2 h3 hW.sound input rest hl
    (fun e he => hr e (List.mem_cons_of_mem _ he)) hc hE o it hit hk hp).1

open Arca.Model.CompleteCex in
/-- `no_producible_output_gives_error` in that form -/
theorem no_output_stmt : NoOutputStmt NoEF := by
  rintro P fns ord h ⟨h1, h2, h3⟩ hW hl ⟨input, rest, rfl⟩ hE hn
  obtain ⟨a, b, _⟩ := no_producible_output_gives_error P fns ord h1 h2 h3 hW.sound input rest hl hE hn
  exact ⟨a, b⟩

/-- the invariant behind the three theorems: after every reaction of a legal history the ready set is empty, unless an
evaluation failed -/
theorem ready_empty_stmt : Arca.Model.CompleteCex.ReadyEmptyStmt Prepared.WF3OK := by
  rintro P fns ord h ⟨h1, h2, h3⟩ hW hl ⟨input, rest, rfl⟩
  exact (run_core hW.sound fns ord h1 h2 h3 input rest hl).2.2.2.imp_right (·.2)

/-- the hypotheses "no evaluation failure" and "every step completed" of the C03 theorems are needed, and the clause
`output_sink` is needed for the invariant (`Arca/Proofs/LoopCompleteCex.lean`) -/
theorem completeness_hypotheses_needed :
    ¬ Arca.Model.CompleteCex.ProducibleStmt Arca.Model.CompleteCex.StartComplete (fun _ _ _ _ => True) ∧
    ¬ Arca.Model.CompleteCex.ProducibleStmt Arca.Model.CompleteCex.StartsWithStart Arca.Model.CompleteCex.NoEF ∧
    ¬ Arca.Model.CompleteCex.NoOutputStmt (fun _ _ _ _ => True) ∧
    ¬ Arca.Model.CompleteCex.ReadyEmptyStmt (Arca.Model.CompleteCex.AllBut "output_sink") :=
  open Arca.Model.CompleteCex in
  ⟨producible_needs_no_eval_failure, producible_needs_completion, no_output_needs_no_eval_failure,
   ready_empty_needs_output_sink⟩

/-! non-vacuity (`CompleteCex.PX`, see C01): with the history in which step `a` ends through its stage `s` the output
node is producible and it is the only output node, so `producible_output_is_returned` yields the result; with the
history in which `a` ends through `t` the output node is unresolvable and `no_producible_output_gives_error` applies. -/

open Arca.Model.CompleteCex in
theorem PX_good_noEF : ∀ a ∈ (run PX fns0 id (.start .null :: HXgood)).2, a.isEvalFailed = false := PX_good_run.2.2.2.1
open Arca.Model.CompleteCex in
theorem PX_bad_noEF : ∀ a ∈ (run PX fns0 id (.start .null :: HXbad)).2, a.isEvalFailed = false := PX_bad_run.2.2.2.1

open Arca.Model.CompleteCex in
theorem PX_output_nodes (x : String) (hx : isOutputNode PX x) : x = "outputs.o" :=
  forall_outputNodes (Q := (· = "outputs.o")) (by decide +kernel) x hx

open Arca.Model.CompleteCex in
example : ∃ v d, (outIt "o").data = some d ∧ (run PX fns0 id (.start .null :: HXgood)).1.result = some ("o", v) ∧
    Action.output "o" v ∈ (run PX fns0 id (.start .null :: HXgood)).2 ∧ ∃ g data, resolveIn fns0 g data d = .ok v :=
  (producible_output_is_returned PX fns0 id ordPerm_id.1 ordPerm_id.2.1 ordPerm_id.2.2 PX_wf.sound .null HXgood
    PX_good_legal (all_eventReportsB PX_good_run.2.1) (allCompleteB_sound PX_good_run.2.2.1) PX_good_noEF
    "outputs.o" (outIt "o") (by simp [PX, lookup]) rfl PX_good_run.2.2.2.2.1).2
    (fun x hx _ => PX_output_nodes x hx)

open Arca.Model.CompleteCex in
example : countP Action.isNoMoreOutputs (run PX fns0 id (.start .null :: HXbad)).2 = 1 ∧
    (run PX fns0 id (.start .null :: HXbad)).1.result = none ∧
    (∀ oid v, Action.output oid v ∉ (run PX fns0 id (.start .null :: HXbad)).2) :=
  no_producible_output_gives_error PX fns0 id ordPerm_id.1 ordPerm_id.2.1 ordPerm_id.2.2 PX_wf.sound .null HXbad
    PX_bad_legal PX_bad_noEF (forall_outputNodes PX_bad_run.2.2.2.2.1)

end Arca.Props.C03
