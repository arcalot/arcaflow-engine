/-
C15 — optional, one-of and or-disabled inputs mean what their tags say.

The meaning of the tags is the behaviour of `resolveIn` (the model of resolveExpressions / resolveOneOfExpression /
resolveOptionalExpression) on a graph satisfying the graph invariant:
* an optional field is present exactly when its dependency group is recorded as resolved in the consumer's node, and then
  carries the value of its expression; absent members are left out of the enclosing map;
* for a wait-optional (completion dependency) the group is settled — resolved or unresolvable — whenever the consumer is
  evaluated, so "present iff the source was produced";
* a one-of value is the data of the alternative whose option node was resolved first, plus the discriminator naming it
  (`!ordisabled` is parsed into a one-of with the options `enabled` / `disabled`, see workflow/yaml.go, pinned);
* whatever is recorded as a resolved dependency is a resolved node: its source was really produced.
A `!soft-optional` never delays its consumer because its dependency type is `opt`, which `ready_sound` / `pushStarting`
ignore (not a hard dependency): stated as `soft_optional_not_hard`.  `resolveIn` ignores the `wait` flag of
`InVal.optional`: wait-optional and soft-optional differ only in the dependency type of the edge `Prepare` builds from the
group to its holder (`optDep` in `Model/Prepare.lean`: `cand` / `opt`).
-/
import Arca.Proofs.LoopDag

namespace Arca.Props.C15
open Arca.Model

theorem optional_meaning (fns : Fns) (g : Graph String) (data : Val) (w : Bool) (grp par : String) (e : Expr)
    (p : Node String) (hp : g.find? par = some p) :
    resolveIn fns g data (.optional w grp par e) =
      (if p.res.any (fun q => q.1 = grp) then
        (match evalExpr fns data e with
         | .ok v => .ok v
         | .error x => .error (.eval x))
       else .ok Val.null) := by
  rw [resolveIn, hp]
  dsimp only
  split
  · cases evalExpr fns data e <;> rfl
  · rfl

theorem absent_members_left_out (fns : Fns) (g : Graph String) (data : Val) (kvs : List (String × InVal))
    (out : List (String × Val)) (h : resolveKvs fns g data kvs = .ok out) :
    ∀ k v, (k, v) ∈ out → v ≠ Val.null ∧ ∃ x, (k, x) ∈ kvs ∧ resolveIn fns g data x = .ok v := by
  induction kvs generalizing out with
  | nil => rw [resolveKvs] at h; cases h; exact fun _ _ hm => nomatch hm
  | cons kx rest ih =>
    obtain ⟨k0, x0⟩ := kx
    rw [resolveKvs] at h
    split at h
    · cases h
    rename_i v0 hv0
    split at h
    · cases h
    rename_i vs hvs
    have hrest : ∀ k v, (k, v) ∈ vs → v ≠ Val.null ∧ ∃ x, (k, x) ∈ (k0, x0) :: rest ∧ resolveIn fns g data x = .ok v :=
      fun k v hm => (ih vs hvs k v hm).imp_right fun ⟨x, hx, h2⟩ => ⟨x, List.mem_cons_of_mem _ hx, h2⟩
    split at h <;> cases h
    · exact hrest
    · rename_i hnn
      intro k v hm
      rcases List.mem_cons.1 hm with hm | hm
      · cases hm; exact ⟨fun h => hnn h, x0, List.mem_cons_self, hv0⟩
      · exact hrest k v hm

theorem resolveOpt_some {fns : Fns} {g : Graph String} {data : Val} {optId : String} {opts : List (String × InVal)}
    {v : Val} (h : resolveOpt fns g data optId opts = .ok (some v)) :
    ∃ x, (optId, x) ∈ opts ∧ resolveIn fns g data x = .ok v := by
  induction opts with
  | nil => rw [resolveOpt] at h; cases h
  | cons kx rest ih =>
    obtain ⟨k0, x0⟩ := kx
    rw [resolveOpt] at h
    split at h
    · rename_i hk
      split at h
      · cases h
      · rename_i v0 hv0
        cases h
        exact ⟨x0, by rw [hk]; exact List.mem_cons_self, hv0⟩
    · obtain ⟨x, hx, h2⟩ := ih h
      exact ⟨x, List.mem_cons_of_mem _ hx, h2⟩

theorem oneof_meaning (fns : Fns) (g : Graph String) (data : Val) (disc node : String) (opts : List (String × InVal))
    (v : Val) (h : resolveIn fns g data (.oneof disc node opts) = .ok v) :
    ∃ n dep optId x kvs, g.find? node = some n ∧ (dep, Dep.or) ∈ n.res ∧ optId = stripPrefix (node ++ ".") dep ∧
      (optId, x) ∈ opts ∧ resolveIn fns g data x = .ok (.map kvs) ∧ v = .map (insertKv disc (.str optId) kvs) := by
  rw [resolveIn] at h
  split at h
  · cases h
  rename_i n hn
  split at h
  · cases h
  rename_i dep d hfind
  have hmem := List.mem_of_find?_eq_some hfind
  have hd := List.find?_some hfind
  simp only [decide_eq_true_eq] at hd
  subst hd
  dsimp only at h
  split at h
  · cases h
  · cases h
  · rename_i kvs hopt
    cases h
    obtain ⟨x, hx, h2⟩ := resolveOpt_some hopt
    exact ⟨n, dep, _, x, kvs, hn, hmem, rfl, hx, h2, rfl⟩
  · cases h

theorem recorded_source_was_produced (g : Graph String) (h : g.Inv) (n : Node String) (hn : n ∈ g.nodes)
    (q : String × Dep) (hq : q ∈ n.res) : statusIs g q.1 St.resolved :=
  Graph.res_resolved g h n hn q hq

set_option linter.unusedVariables false in -- `hP` is not used; it stays because the property is stated of well-formed workflows
theorem wait_optional_settled_when_evaluated (P : Prepared) (fns : Fns) (ord : Order) (hord : OrdOK ord) (s : LoopState)
    (e : Event) (hP : P.WF) (h : LoopDagInv P s) (step stage : String) (v : Val)
    (hp : Action.provide step stage v ∈ (react P fns ord s e).2) :
    ∃ id, (∃ it, lookup id P.items = some it ∧ it.kind = Kind.stage ∧ it.step = step ∧ it.stage = stage) ∧
      ∀ ed ∈ P.dag.edges, ed.2.1 = id → ed.2.2 = Dep.cand →
        statusIs (react P fns ord s e).1.dag ed.1 St.resolved ∨ statusIs (react P fns ord s e).1.dag ed.1 St.unres := by
  obtain ⟨id, it, d, h1, h2, h3, h4, _, _, _, h8⟩ := react_actsOK P fns ord hord s e h _ hp
  exact ⟨id, ⟨it, h1, h2, h3, h4⟩, h8⟩

/-- an optional ITEM of a list is handled like an optional field of a map (/repo 5cc5347) — an absent one is left out, the
    other items keep their order -/
theorem absent_optional_item_left_out (fns : Fns) (g : Graph String) (data : Val) (w : Bool) (grp par : String) (e : Expr)
    (xs : List InVal) (p : Node String) (hp : g.find? par = some p) (habs : p.res.any (fun q => q.1 = grp) = false) :
    resolveList fns g data (.optional w grp par e :: xs) = resolveList fns g data xs := by
  have h := optional_meaning fns g data w grp par e p hp
  rw [habs] at h
  simp only [Bool.false_eq_true, if_false] at h
  rw [resolveList, h]
  cases resolveList fns g data xs <;> rfl

/-- a present optional item carries the value of its expression, in its position -/
theorem present_optional_item_kept (fns : Fns) (g : Graph String) (data : Val) (w : Bool) (grp par : String) (e : Expr)
    (xs : List InVal) (vs : List Val) (v : Val) (p : Node String) (hp : g.find? par = some p)
    (hpres : p.res.any (fun q => q.1 = grp) = true) (hv : evalExpr fns data e = .ok v) (hnn : v ≠ Val.null)
    (hxs : resolveList fns g data xs = .ok vs) :
    resolveList fns g data (.optional w grp par e :: xs) = .ok (v :: vs) := by
  have h := optional_meaning fns g data w grp par e p hp
  rw [hpres] at h
  simp only [if_true, hv] at h
  rw [resolveList, h, hxs]
  cases v <;> first | rfl | exact absurd rfl hnn

/-- no item that is an absent optional survives as `null`: a `null` in the result of a list comes from a non-optional item -/
theorem list_result_null_only_from_non_optional (fns : Fns) (g : Graph String) (data : Val) :
    ∀ (xs : List InVal) (vs : List Val), resolveList fns g data xs = .ok vs → Val.null ∈ vs →
      ∃ x ∈ xs, resolveIn fns g data x = .ok Val.null ∧ ∀ w grp par e, x ≠ .optional w grp par e := by
  intro xs
  induction xs with
  | nil => intro vs h hm; rw [resolveList] at h; cases h; cases hm
  | cons x xs ih =>
    intro vs h hm
    rw [resolveList] at h
    split at h
    · cases h
    rename_i v hx
    split at h
    · cases h
    rename_i vs' hr
    have hrest : Val.null ∈ vs' → ∃ y ∈ x :: xs, resolveIn fns g data y = .ok Val.null ∧
        ∀ w grp par e, y ≠ .optional w grp par e :=
      fun hm => (ih vs' hr hm).imp fun y hy => ⟨List.mem_cons_of_mem _ hy.1, hy.2⟩
    split at h <;> cases h
    · exact hrest hm
    · rename_i hne
      rcases List.mem_cons.1 hm with hm | hm
      · subst hm
        exact ⟨x, List.mem_cons_self, hx, fun w grp par e hxe => hne w grp par e hxe rfl⟩
      · exact hrest hm

/-- a soft-optional dependency (`opt`) and an obviated one are not hard: they never keep a node from becoming ready -/
theorem soft_optional_not_hard : Dep.opt.hard = false ∧ Dep.obv.hard = false ∧ Dep.cand.hard = true ∧ Dep.and.hard = true := by
  decide

end Arca.Props.C15
