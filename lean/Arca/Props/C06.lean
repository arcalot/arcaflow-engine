/-
C06 — cancelling a run stops it in bounded time and reaches every running plugin.

Logical-time theorems over `Arca.Model.Cancel` for any number of steps and any closure timeouts, tied to the source by
the regenerated constants (grace period expression, default closure timeout) and by ordering facts on the regenerated
skeletons of `Execute` and `runStage`.  Real-time behaviour is measured on cancelled runs of the real
engine against this bound (+ tolerance): partial, see DESIGN.md 15.4.
-/
import Arca.Model.Cancel
import Arca.Model.SkelUtil
import Arca.Gen.Consts
import Arca.Gen.Skel
import Arca.Props.C06Foreach   -- so that the module of C06 carries the foreach obligations too

namespace Arca.Props.C06
open Arca.Model.Cancel Arca.Model.Skel

theorem foldl_add_map_le {α : Type} (f g : α → Nat) (hfg : ∀ x, f x ≤ g x) (l : List α) (a b : Nat) (h : a ≤ b) :
    (l.map f).foldl (· + ·) a ≤ (l.map g).foldl (· + ·) b := by
  induction l generalizing a b with
  | nil => exact h
  | cons x xs ih => exact ih _ _ (Nat.add_le_add h (hfg x))

theorem foldl_add_le (l : List Nat) (a b : Nat) (h : a ≤ b) : l.foldl (· + ·) a ≤ l.foldl (· + ·) b := by
  simpa using foldl_add_map_le id id (fun _ => Nat.le_refl _) l a b h

theorem closeTime_le (s : StepT) : closeTime s ≤ s.closureMs := by
  unfold closeTime
  split
  · omega
  · split
    · omega
    · split <;> omega

theorem terminateTime_le (steps : List StepT) :
    terminateTime steps ≤ (steps.map (·.closureMs)).foldl (· + ·) 0 :=
  foldl_add_map_le _ _ closeTime_le steps 0 0 (Nat.le_refl 0)

theorem waitTime_le (graceMs : Nat) (resultAfter : Option Nat) : waitTime graceMs resultAfter ≤ graceMs := by
  unfold waitTime
  split <;> omega

/-- the run returns within the grace period plus the sum of the steps' closure timeouts -/
theorem cancel_bound (graceMs : Nat) (resultAfter : Option Nat) (steps : List StepT) :
    returnTime graceMs resultAfter steps ≤ graceMs + (steps.map (·.closureMs)).foldl (· + ·) 0 := by
  unfold returnTime
  have h1 := terminateTime_le steps
  have h2 := waitTime_le graceMs resultAfter
  exact Nat.max_le.mpr ⟨by omega, by omega⟩

/-- in the model: a step that is executing has the handler (it is then signalled) or takes no time to close; what the
    code does on `ctx.Done` is `runStage_signals_or_closes` -/
theorem cancel_reaches_running (s : StepT) : reached s = true := by
  unfold reached closeTime
  cases s.executing <;> cases s.hasHandler <;> simp

/-- a plugin that honours the signal is not waited for longer than it needs -/
theorem responsive_plugin_fast (s : StepT) (t : Nat) (h : s.respondsIn = some t) : closeTime s ≤ t := by
  unfold closeTime
  split
  · omega
  · split
    · omega
    · simp [h]; omega

/-- the grace period and the default closure timeout as in the source.  The model takes both as parameters; the values
    are used by the monitors: `GRACE_MS` in `lib/monitors.py`, `DEFAULT_CLOSURE_MS` in `lib/props_c13.py`. -/
theorem constants_as_modelled : Arca.Gen.graceExpr = "5 * time.Second" ∧ Arca.Gen.defaultClosureTimeoutMs = 5000 :=
  ⟨rfl, rfl⟩

/-- `Execute` calls `terminateAllSteps` somewhere and has a `defer wg.Wait()`.  (On `ctx.Done` the steps are terminated in
    a goroutine and `Execute` waits for it; the first conjunct does not see that goroutine: the deferred
    `terminateAllSteps` registered before the `select` satisfies it already.) -/
theorem execute_waits_for_termination :
    has (isTok "call:l.terminateAllSteps()") Arca.Gen.Skel.workflow_workflow_executableWorkflow_Execute = true ∧
    adjacent (isTok "defer{") (isTok "call:wg.Wait()") Arca.Gen.Skel.workflow_workflow_executableWorkflow_Execute = true := by
  decide +kernel

/-- `runStage`: on ctx.Done a step with the handler gets the signal (`cancelStep`), one without is force-closed; the wait
    for the result is bounded by a timer -/
theorem runStage_signals_or_closes :
    has (isTok "call:r.cancelStep()") Arca.Gen.Skel.step_plugin_provider_runningStep_runStage = true ∧
    has (isTok "call:r.forceCloseInternal()") Arca.Gen.Skel.step_plugin_provider_runningStep_runStage = true ∧
    has (isTok "comm(<-time.After(time.Duration(forceCloseTimeoutMS) * time.Millisecond)):")
      Arca.Gen.Skel.step_plugin_provider_runningStep_runStage = true := by
  decide +kernel

example : returnTime 5000 none [⟨true, true, 100, none⟩, ⟨true, false, 200, none⟩] = 5000 := by decide
example : returnTime 50 (some 10) [⟨true, true, 100, none⟩, ⟨true, true, 200, some 30⟩] = 130 := by decide

end Arca.Props.C06
