/-
C17 — no data races in the engine on any explored schedule.

Proved: the lockset argument, once and for all (`lockset_sound`, Arca/Model/Lockset.lean).  Over the access table
regenerated from the source on every run (`Arca.Gen.accessTable`: every read / write of a field of `loopState` and of the
two `runningStep`s, and of locals shared with goroutine literals, with the lock state the extractor computed): every
access, outside the constructor literal, of a datum written after construction holds the owning mutex, or is on the
hand-written allowlist `Arca.Expected.accessExceptions`, or is the named exclusion `knownRace_cancelled`.  "The caller
holds the lock" is never taken from a comment: the extractor's assignment is re-checked to be consistent with the
extracted call graph (a marked function has every call site in a locked region or in a marked function, none a `go`
statement, and is not reachable from outside its file: the direction the argument needs; the extractor emits the
greatest such assignment).  The composition is `engine_locked_accesses_ordered`.

What is NOT proved (validated dynamically only, by the race-detector build of the harness, stream `racesuite`)
* the allowlisted accesses: each relies on an ordering the trace model does not contain (one goroutine only, `go`
  statement, WaitGroup) — see the justification strings in Arca/Expected/Access.lean;
* `knownRace_cancelled` (finding F10d): the read of `r.cancelled` in plugin `closedEarly` is excluded by name, not
  allowlisted, so that it stays visible in the statement; in the current source the read is made under the step lock
  (de03ab9) and no row matches the exclusion;
* that a real execution *conforms* to the table (`Conforms`): the extractor's lock-state scan is intra-procedural and
  syntactic.  Not tracked: aliases of field contents kept in local variables (e.g. the inner maps of `l.data`), the internal
  state of objects reached through a field by a method call (dgraph graph, logger, ATP client: they have their own locks),
  atomics / channels / wait groups / contexts (counted as synchronising operations, never as plain accesses), safe
  publication of the immutable fields (constructor literal before `go x.run()` / before the pointer is returned);
* package-level state: `objectIDRandom` in internal/infer/infer.go (`Arca.Gen.packageVarUses`) is used without
  synchronisation at Prepare time; overlapping preparations are outside this property's quantifier (note, not a finding).
-/
import Arca.Model.Lockset
import Arca.Proofs.SkelUtil
import Arca.Gen.Access
import Arca.Gen.Unknown
import Arca.Expected.Access
import Arca.Gen.Frame

namespace Arca.Props.C17
open Arca.Gen Arca.Expected Arca.Model.Lockset

/-- re-export: two accesses under one common mutex are ordered (Arca.Model.Lockset.lockset_sound) -/
theorem lockset_sound (tr : Trace) (hw : WF tr) (i j : Nat) (hij : i < j) (t₁ t₂ : Tid) (x : Loc) (m : Mid)
    (e₁ e₂ : Ev) (hi : tr[i]? = some e₁) (hj : tr[j]? = some e₂)
    (ha₁ : e₁.accesses t₁ x) (ha₂ : e₂.accesses t₂ x) (hne : t₁ ≠ t₂)
    (hl₁ : holdsAt tr i t₁ m) (hl₂ : holdsAt tr j t₂ m) : HB tr i j :=
  Arca.Model.Lockset.lockset_sound tr hw i j hij t₁ t₂ x m e₁ e₂ hi hj ha₁ ha₂ hne hl₁ hl₂

/-- a location all of whose accesses are made under one mutex has no data race -/
theorem lockset_discipline_race_free (tr : Trace) (hw : WF tr) (x : Loc) (m : Mid)
    (hd : ∀ i t e, tr[i]? = some e → e.accesses t x → holdsAt tr i t m) :
    ∀ i j, ¬ (Race tr i j ∧ ∃ t e, tr[i]? = some e ∧ e.accesses t x) :=
  Arca.Model.Lockset.lockset_discipline_race_free tr hw x m hd

/-- plain data: a field that is not a mutex / atomic / channel / wait group / context and not immutable after construction,
    or a local variable shared with a goroutine literal -/
def isData (r : AccessRow) : Bool := r.kind == "plain" || r.kind == "local"

/-- the datum (file, field) is written somewhere outside the constructor literal -/
def mutated (tbl : List AccessRow) (file field : String) : Bool :=
  tbl.any fun r => r.file == file && r.field == field && r.write && !r.ctor

/-- the row is covered by an allowlist entry (same file, function, field and direction) -/
def excepted (exc : List AccessException) (r : AccessRow) : Bool :=
  exc.any fun e => e.file == r.file && e.func == r.func && e.field == r.field && e.write == r.write

/-- F10d: plugin `closedEarly` reads `r.cancelled` without the step lock.  Suspected genuine race; not allowlisted. -/
def knownRace_cancelled (r : AccessRow) : Bool :=
  r.file == pluginFile && r.func == "runningStep.closedEarly" && r.field == "cancelled" && !r.write

def rowSafe (tbl : List AccessRow) (exc : List AccessException) (r : AccessRow) : Bool :=
  !isData r || r.ctor || !mutated tbl r.file r.field || r.locked || excepted exc r || knownRace_cancelled r

def tableSafe (tbl : List AccessRow) (exc : List AccessException) : Bool := tbl.all (rowSafe tbl exc)

def unlockedData (tbl : List AccessRow) : List AccessRow := tbl.filter fun r => !r.locked && !r.ctor && isData r

/-- `tableSafe` with the Bool columns read first: `rowSafe` asks `mutated`, a pass over the whole table comparing strings,
    before it looks at `locked` -/
theorem tableSafe_eq (tbl : List AccessRow) (exc : List AccessException) :
    tableSafe tbl exc =
      (unlockedData tbl).all fun r => excepted exc r || knownRace_cancelled r || !mutated tbl r.file r.field := by
  simp only [tableSafe, unlockedData, List.all_filter]
  congr 1; funext r
  simp only [rowSafe]
  cases r.locked <;> cases r.ctor <;> cases isData r <;> cases mutated tbl r.file r.field <;> simp

theorem rowSafe_of_locked (tbl : List AccessRow) (exc : List AccessException) {r : AccessRow} (h : r.locked = true) :
    rowSafe tbl exc r = true := by
  simp [rowSafe, h]

theorem tableSafe_cons_read (tbl : List AccessRow) (exc : List AccessException) {r : AccessRow} (h : r.write = false) :
    tableSafe (r :: tbl) exc = (rowSafe tbl exc r && tableSafe tbl exc) := by
  have hm : mutated (r :: tbl) = mutated tbl := by funext file field; simp [mutated, h]
  have hs : rowSafe (r :: tbl) exc = rowSafe tbl exc := by funext x; simp only [rowSafe, hm]
  rw [tableSafe, List.all_cons, hs, tableSafe]

theorem tableSafe_checked : tableSafe accessTable accessExceptions = true := by
  rw [tableSafe_eq]
  decide +kernel

/-- Every read and every write, outside the constructor literal, of engine data that is written after construction is
    made with the owning mutex held — or is allowlisted (dynamic validation only) — or is the known race F10d. -/
theorem engine_access_table_safe :
    ∀ r ∈ accessTable, isData r = true → r.ctor = false → mutated accessTable r.file r.field = true →
      r.locked = true ∨ excepted accessExceptions r = true ∨ knownRace_cancelled r = true := by
  intro r hr hd hc hm
  simpa only [rowSafe, hd, hc, hm, Bool.not_true, Bool.false_or, Bool.or_eq_true, or_assoc] using
    List.all_eq_true.mp tableSafe_checked r hr

def entryLocked (file fn : String) : Bool :=
  lockedOnEntry.any fun (f, g, b) => f == file && g == fn && b

theorem entryLocked_eq (file fn : String) :
    entryLocked file fn = (lockedOnEntry.filter (·.2.2)).any fun (f, g, _) => f == file && g == fn := by
  simp [entryLocked, List.any_filter, Bool.and_comm]

/-- the function can be entered from outside the call graph of its file: exported method or method of another type,
    referenced from a sibling file or as a method value, callback literal, goroutine literal -/
def externallyReachable (file fn : String) : Bool :=
  funcInfo.any fun (f, g, root, ext, _) => f == file && g == fn && (ext || root == "callback" || root == "go-literal")

def siteOk (c : CallSite) : Bool :=
  !c.viaGo && (c.held || (c.inherit && entryLocked c.file c.caller))

/-- "the caller holds the lock" is computed by the extractor, and the computation is checked here: every marked
    function has a call site, is not reachable from outside, and all its call sites are fine -/
def entryConsistent : Bool :=
  lockedOnEntry.all fun (f, g, b) =>
    !b || (!externallyReachable f g
            && callSites.any (fun c => c.file == f && c.callee == g)
            && callSites.all (fun c => !(c.file == f && c.callee == g) || siteOk c))

/-- a function whose comment promises "the caller holds the lock" but which is also called without it -/
def contractGap_reportError (file fn : String) : Bool := file == wfFile && fn == "loopState.reportError"

/-- The three facts that follow in one evaluation: they compare the same function names over and over, as numbers
    (`beq_eq_code`), each read once. -/
theorem entry_locks_checked :
    entryConsistent = true ∧
    (accessTable.all fun r => r.locked == (r.held || (r.inherit && entryLocked r.file r.func))) = true ∧
    (funcInfo.all fun (f, g, _, _, contract) => !contract || entryLocked f g || contractGap_reportError f g) = true := by
  simp only [entryLocked_eq, entryConsistent, siteOk, externallyReachable, Arca.Proofs.SkelUtil.beq_eq_code]
  decide +kernel

/-- every function marked "entered with the lock held" has a call site, is not reachable from outside, and each of its
    call sites is in a locked region or in a function that is itself entered with the lock held; none is a `go` statement -/
theorem lockedOnEntry_consistent : entryConsistent = true := entry_locks_checked.1

/-- a row counts as locked exactly when the lock was taken locally, or the function was entered with it and has not
    released it -/
theorem locked_is_held_or_entry :
    (accessTable.all fun r => r.locked == (r.held || (r.inherit && entryLocked r.file r.func))) = true :=
  entry_locks_checked.2.1

/-- the lock contracts written in comments ("must have the step mutex locked", "lock should be acquired by the caller",
    "called with the run lock held") agree with the computed call graph — except `reportError`, which Execute also calls
    without the run lock (it only touches a channel and the immutable logger) -/
theorem lock_contracts_respected :
    (funcInfo.all fun (f, g, _, _, contract) => !contract || entryLocked f g || contractGap_reportError f g) = true :=
  entry_locks_checked.2.2

/-- the extractor met no statement or expression shape it does not know in the three files -/
theorem access_shapes_recognised : (Arca.Gen.unknown.all fun s => !s.startsWith "access:") = true := by decide +kernel

/-- The (trusted, dynamically validated) tie between an execution and the table, for one object with mutex `m`:
    `row i = some r` says that event `i` of the trace was produced by the statement of table row `r`; then the event is an
    access of the location of that row's datum, and if the row is `locked` the executing thread holds `m` at that moment. -/
structure Conforms (tr : Trace) (m : Mid) (loc : String → String → Loc) (row : Nat → Option AccessRow) : Prop where
  inTable : ∀ i r, row i = some r → r ∈ accessTable
  isAccess : ∀ i r, row i = some r →
    ∃ t e, tr[i]? = some e ∧ e.accesses t (loc r.file r.field) ∧ (r.locked = true → holdsAt tr i t m)

/-- a row to which the lock discipline applies without exception -/
def disciplined (r : AccessRow) : Prop :=
  isData r = true ∧ r.ctor = false ∧ mutated accessTable r.file r.field = true ∧
    excepted accessExceptions r = false ∧ knownRace_cancelled r = false

theorem disciplined_locked {r : AccessRow} (hr : r ∈ accessTable) (h : disciplined r) : r.locked = true := by
  obtain ⟨hd, hc, hm, hx, hk⟩ := h
  exact (engine_access_table_safe r hr hd hc hm).resolve_right (by rw [hx, hk]; nofun)

/-- In a well-formed trace that conforms to the table, two accesses of the same mutable datum of one object whose rows are
    neither allowlisted nor the known race are ordered by happens-before: no data race between them. -/
theorem engine_locked_accesses_ordered (tr : Trace) (hw : WF tr) (m : Mid) (loc : String → String → Loc)
    (row : Nat → Option AccessRow) (hc : Conforms tr m loc row)
    (i j : Nat) (hij : i ≠ j) (r₁ r₂ : AccessRow) (h₁ : row i = some r₁) (h₂ : row j = some r₂)
    (hfile : r₁.file = r₂.file) (hfield : r₁.field = r₂.field)
    (hd₁ : disciplined r₁) (hd₂ : disciplined r₂) : HB tr i j ∨ HB tr j i := by
  obtain ⟨t₁, e₁, hi, ha₁, hl₁⟩ := hc.isAccess i r₁ h₁
  obtain ⟨t₂, e₂, hj, ha₂, hl₂⟩ := hc.isAccess j r₂ h₂
  have hk₁ := hl₁ (disciplined_locked (hc.inTable i r₁ h₁) hd₁)
  have hk₂ := hl₂ (disciplined_locked (hc.inTable j r₂ h₂) hd₂)
  rw [← hfile, ← hfield] at ha₂
  exact locked_accesses_ordered tr hw hij hi hj ha₁ ha₂ hk₁ hk₂

-- the discipline applies to something: fields of all three structures are mutated after construction
example : mutated accessTable wfFile "outputDone" = true ∧ mutated accessTable pluginFile "state" = true ∧
    mutated accessTable foreachFile "currentState" = true := by
  decide +kernel

-- an unlocked read of `state` added to the table (a dropped lock, a new unlocked access) is rejected
example : tableSafe (⟨pluginFile, "runningStep.State", "r", "state", "read", false, false, true, false, "plain", 784, false, false⟩
    :: accessTable) accessExceptions = false := by decide +kernel

-- the same row with the lock held is accepted; by the two lemmas, since accepting by evaluation passes over the whole
-- table again, where rejecting stops at the first row
example : tableSafe (⟨pluginFile, "runningStep.State", "r", "state", "read", false, true, true, true, "plain", 784, false, false⟩
    :: accessTable) accessExceptions = true := by
  rw [tableSafe_cons_read _ _ rfl, rowSafe_of_locked _ _ rfl, tableSafe_checked]
  rfl

-- the allowlist is needed: without it the table is rejected
example : tableSafe accessTable [] = false := by
  rw [tableSafe_eq]
  decide +kernel

-- the known race is not hidden by the allowlist
example : accessExceptions.all (fun e => !(e.file == pluginFile && e.field == "cancelled")) = true := by decide +kernel

-- some functions really are entered with the lock held: the assignment is not the trivial all-false one
example : entryLocked wfFile "loopState.notifySteps" = true ∧ entryLocked pluginFile "runningStep.cancelStep" = true ∧
    entryLocked pluginFile "runningStep.closedEarly" = false := by
  simp only [entryLocked_eq]
  decide +kernel

/-- Objects outside the access table that overlapping runs share: the one-of / optional expression objects of internal/infer
    stored in the prepared workflow's DAG items.  The run loop calls their methods under the per-run lock only, so they must
    be read-only: no method assigns through its receiver (regenerated from internal/infer on every run). -/
theorem shared_expression_objects_are_read_only : Arca.Gen.sharedExprReceiverWrites = [] := by decide

end Arca.Props.C17
