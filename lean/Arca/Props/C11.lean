/-
C11 — parsing any files yields a workflow or an error, never a crash or endless loop.

Scope.  The model starts at the node tree gopkg.in/yaml.v3 produces (`YNode`); yaml.v3 (bytes → nodes),
`expressions.New` (`Env.parseExpr`: accepts, rejects or panics), the regular expression of `!ordisabled`
(`Env.stepPath`), path normalisation (`norm`) and the schema unserialization that follows `yamlBuildExpressions` in
`FromYAML` are parameters / outside the model; they are exercised by the correspondence streams
(`vharness parse -mode tree|fs|bytes`).  All theorems quantify over every node tree, every environment and every finite
file system.
-/
import Arca.Proofs.YamlLemmas
import Arca.Proofs.YamlSubWf
import Arca.Gen.Asserts
import Arca.Expected.Asserts

namespace Arca.Props.C11
open Arca.Model.Yaml Arca.Model.SubWf

/-
FULL STATEMENT (false over the whole node alphabet):

  theorem transform_never_panics (t : YNode) : ∀ s, transform t ≠ .panic s

`transform` evaluates `n.Content[0]` for a document node without checking `len(n.Content)`; the tree `YNode.doc []`
makes it index out of range (`transform_panics_on_empty_document` below).  gopkg.in/yaml.v3 never produces such a node
(`parser.document()` always appends exactly one child, and `Parse` is the only caller of `transform`), so no byte
string triggers it — the differential streams confirm this — but the guarantee lives in yaml.v3, not in the engine.
The hypothesis `docsOk` of the partial version says exactly that: every document node that `transform` can reach has
a child.
-/
theorem transform_never_panics_partial (t : YNode) (h : t.docsOk = true) : ∀ s, transform t ≠ .panic s :=
  Out.isPanic_eq_false_iff.mp (transform_no_panic t h)

/-- the counterexample that makes the hypothesis necessary -/
theorem transform_panics_on_empty_document : (transform (.doc [])).isPanic = true := rfl

/-- what `yaml.Unmarshal(data, &n)` leaves in `n`: the zero node for an empty stream, otherwise a document node with
    exactly one child that contains no further document nodes -/
def fromYamlV3 : YNode → Bool
  | .empty => true
  | .doc [c] => c.docsOk
  | _ => false

/-- `yaml.New().Parse(data)` never panics on anything yaml.v3 hands over -/
theorem parse_never_panics (t : YNode) (h : fromYamlV3 t = true) : ∀ s, parse t ≠ .panic s := by
  apply transform_never_panics_partial
  unfold fromYamlV3 at h
  split at h
  · rfl
  · exact h
  · cases h

/-- `Raw()` (how input files are decoded, `engineWorkflow.Run`) returns a value for every node a successful
    `transform` produced — in particular `n.contents[i].Raw().(string)` cannot fail and no index is out of range. -/
theorem raw_never_panics (t : YNode) (n : Node) (h : transform t = .ok n) : ∃ v, raw n = .ok v :=
  raw_wf n (transform_wf t n h)

/-- On a transformed map node `MapKeys` and `MapKey` are total, and every key `MapKeys` lists is found by `MapKey`
    (so the discarded `found` result in `yamlBuildExpressions` / `buildOneOfExpressions` never hides a nil node). -/
theorem mapKey_total_on_transformed (t : YNode) (n : Node) (h : transform t = .ok n) (hmap : n.typeID = .map) :
    (∃ ks, mapKeys n = .ok ks ∧ ∀ key ∈ ks, ∃ m, mapKey n key = .ok (some m)) ∧
    (∀ key, ∃ r, mapKey n key = .ok r) := by
  obtain ⟨ks, hks, hfound, hany⟩ := mapKeys_mapKey_of_wf (transform_wf t n h) hmap
  exact ⟨⟨ks, hks, fun key hk => (hfound key hk).imp fun _ => And.left⟩, fun key => (hany key).imp fun _ => And.left⟩

/-- `yamlBuildExpressions` (with `buildExpression`, `buildOneOfExpressions`, `buildResultOrDisabledExpression`,
    `buildOptionalExpression`, `compileExpression`) never panics on a node a successful `transform` produced, whatever
    the expression parser does — accept, reject or panic — and whatever the regular expression answers. -/
theorem buildExpressions_never_panics (env : Env) (t : YNode) (n : Node) (h : transform t = .ok n) :
    ∀ s, buildExpressions env n ≠ .panic s :=
  Out.isPanic_eq_false_iff.mp (build_no_panic env n (transform_wf t n h))

/-- an environment in which the expression parser panics on the witness text, as `expressions.New("1 +")` does -/
def panickingEnv : Env :=
  { parseExpr := fun s => if s == "1 +" then .panics else .rejected
    stepPath := fun _ => none }

/-- a panic of the expression parser is reported as the ordinary "failed to compile expression" error:
    the document `!expr '1 +'` transforms fine and `yamlBuildExpressions` returns that error -/
theorem expression_parser_panic_is_reported_as_error :
    ∃ n, transform (.doc [.scalar "!expr" "1 +"]) = .ok n ∧ buildExpressions panickingEnv n = .err .exprCompile :=
  ⟨_, rfl, by simp [buildExpressions, build, Node.tag, buildExpression, compileExpression, Node.typeID, Node.value,
    panickingEnv]⟩

/-- the same for every environment and every text, in `buildExpression` -/
theorem buildExpression_recovers (env : Env) (tag text : String) (h : env.parseExpr text = .panics) :
    buildExpression env (.mk .str tag [] text) = .err .exprCompile := by
  simp [buildExpression, Node.typeID, Node.value, compileExpression, h]

/-- `FromYAML` up to and including `yamlBuildExpressions`, and `Parse` + `Raw`, as one statement about what yaml.v3
    hands over -/
theorem parse_path_never_panics (env : Env) (t : YNode) (h : fromYamlV3 t = true) :
    (∀ s, fromYamlPrefix env t ≠ .panic s) ∧ (∀ s, parseRaw t ≠ .panic s) := by
  unfold fromYamlPrefix parseRaw
  cases ht : transform t with
  | panic s' => exact absurd ht (parse_never_panics t h s')
  | err e => constructor <;> exact fun _ hs => nomatch hs
  | ok n =>
    refine ⟨fun s hs => ?_, fun s hs => ?_⟩
    · cases hb : build env n with
      | panic s' => exact buildExpressions_never_panics env t n ht s' hb
      | err e => simp [hb] at hs
      | ok v => simp [hb] at hs
    · obtain ⟨v, hv⟩ := raw_never_panics t n ht
      simp [hv] at hs

/-- The termination argument Lean accepted for `subworkflowCache` (no fuel): following a reference to a file that exists,
    or to a key the caller supplied, and that is not in the chain strictly decreases the number of files plus the number
    of supplied keys outside the chain.  Restates `measure_lt` with `Visitable` unfolded; the two cases are
    `measure_lt_disk` and `measure_lt_supplied`, which the `termination_by` proofs of the model call. -/
theorem chain_measure_decreases (fs : FS) (sup : Supplied) (chain : List String) (e : String)
    (hv : (∃ c, lookup fs e = some c) ∨ (∃ c, supLookup sup e = some c)) (hn : ¬ e ∈ chain) :
    measure fs sup (chain ++ [e]) < measure fs sup chain :=
  measure_lt hv hn

/-- … and the one for `checkSubworkflowCycles`: following a key that has a content and is not in the chain strictly
    decreases the number of keys of the contents outside the chain.  Restates `unvisited_lt`, which the
    `termination_by` proof of `loopCheck` calls. -/
theorem check_measure_decreases (ctx : FS) (chain : List String) (p : String) (c : FileContent)
    (hl : lookup ctx p = some c) (hn : ¬ p ∈ chain) : unvisited ctx (chain ++ [p]) < unvisited ctx chain :=
  unvisited_lt hl hn

/-- For every finite file system and every set of supplied files (self-references, mutual references, any depth), every
    list of steps and every chain, `subworkflowCache` returns a cache or an error.  No divergence: the function is total
    in Lean by well-founded recursion on `measure fs sup chain` (`chain_measure_decreases`).  No panic: the result type
    has a `panic` outcome, and no statement produces it — `StepWorkflowPaths` uses only checked assertions (pinned by
    `unchecked_assertions_pinned`) and `FromYAML` returns a workflow or an error (`parse_path_never_panics`). -/
theorem subworkflowCache_total (norm : String → String) (fs : FS) (sup : Supplied) (steps : List Step)
    (acc : List (List String)) (chain : List String) :
    (∃ files, subworkflowCache norm fs sup steps acc chain = .ok files) ∨
    (∃ e, subworkflowCache norm fs sup steps acc chain = .error e) := by
  cases h : subworkflowCache norm fs sup steps acc chain with
  | ok files => exact Or.inl ⟨files, rfl⟩
  | error e => exact Or.inr ⟨e, rfl⟩
  | panic s => exact absurd h (subworkflowCache_no_panic steps acc s)

/-- `checkSubworkflowCycles` likewise, for every contents (cyclic or not) -/
theorem checkCycles_total (ctx : FS) (steps : List Step) (chain : List String) :
    checkCycles ctx steps chain = .ok () ∨ ∃ e, checkCycles ctx steps chain = .error e := by
  cases h : checkCycles ctx steps chain with
  | ok u => exact Or.inl rfl
  | error e => exact Or.inr ⟨e, rfl⟩
  | panic s => exact absurd h (checkCycles_no_panic steps s)

/-- the file-cache part of `Parse` likewise, for every cache the caller hands over -/
theorem parseFiles_total (norm : String → String) (fs files : FS) (root : String) :
    (∃ keys, parseFiles norm fs files root = .ok keys) ∨ (∃ e, parseFiles norm fs files root = .error e) := by
  cases h : parseFiles norm fs files root with
  | ok keys => exact Or.inl ⟨keys, rfl⟩
  | error e => exact Or.inr ⟨e, rfl⟩
  | panic s =>
    unfold parseFiles at h
    repeat' split at h
    all_goals simp_all [subworkflowCache_no_panic, checkCycles_no_panic]

/-- file `q` is transitively referenced from the foreach steps of the root workflow of the caller's cache `files` (a
    referenced key denotes the caller's file under that key if there is one, else the file on disk) -/
def ReachFrom (norm : String → String) (fs files : FS) (root q : String) : Prop :=
  ∃ steps, lookup files root = some (.wf steps) ∧ Reach norm fs (some files) steps q

/-- If `Parse` gets past sub-workflow discovery and the cycle check, the merged cache holds the root and every
    transitively referenced file, and each of them exists, converts and is not on a reference cycle.  Conversely, if some
    transitively referenced file is missing, does not convert, or is on a reference cycle, the result is an error.
    (The CLI's cache is `contextCache norm fs root`: the root workflow alone, as it is on disk.) -/
theorem subworkflows_found_or_reported (norm : String → String) (fs files : FS) (root : String) :
    (∀ keys, parseFiles norm fs files root = .ok keys →
      root ∈ keys ∧ ∀ q, ReachFrom norm fs files root q →
        q ∈ keys ∧ (∃ st, denot norm fs (some files) q = some (.wf st)) ∧ ¬ OnCycle norm fs (some files) q) ∧
    ((∃ q, ReachFrom norm fs files root q ∧
        (denot norm fs (some files) q = none ∨ denot norm fs (some files) q = some .invalid ∨
          OnCycle norm fs (some files) q)) →
      ∃ e, parseFiles norm fs files root = .error e) := by
  -- the second part uses the first
  refine (fun key => ⟨key, ?_⟩) ?_
  · intro keys h
    obtain ⟨steps, sub, hroot, hsub, _, rfl⟩ := parseFiles_eq_ok.mp h
    refine ⟨List.mem_append_right _ (lookup_mem hroot), ?_⟩
    rintro q ⟨steps', hl, hreach⟩
    cases hroot.symm.trans hl
    have hg := subworkflowCache_inv hsub hreach
    refine ⟨?_, hg.converts, hg.acyclic⟩
    rcases hg.inCache with hs | hm
    · obtain ⟨c, hq⟩ := Option.isSome_iff_exists.mp hs
      exact List.mem_append_right _ (lookup_mem (show lookup files q = some c from hq))
    · exact List.mem_append_left _ hm
  · rintro ⟨q, hreach, hbad⟩
    rcases parseFiles_total norm fs files root with ⟨keys, h⟩ | ⟨e, h⟩
    · obtain ⟨_, ⟨st, hst⟩, hnc⟩ := (key keys h).2 q hreach
      rcases hbad with hb | hb | hb
      · rw [hst] at hb; cases hb
      · rw [hst] at hb; cases hb
      · exact absurd hb hnc
    · exact ⟨e, h⟩

/-- Completeness: `Parse` fails in its file-cache part only when there is something to report — if the root converts and
    every transitively referenced file exists, converts and is not on a reference cycle, the cache is built and passes
    the cycle check. -/
theorem subworkflows_error_only_if_problem (norm : String → String) (fs files : FS) (root : String) (steps : List Step)
    (hroot : lookup files root = some (.wf steps))
    (hgood : ∀ q, ReachFrom norm fs files root q →
      (∃ st, denot norm fs (some files) q = some (.wf st)) ∧ ¬ OnCycle norm fs (some files) q) :
    ∃ keys, parseFiles norm fs files root = .ok keys := by
  obtain ⟨keys, hkeys⟩ := subworkflowCache_complete (chain := []) (steps := steps) [] (fun q hq => by
    obtain ⟨hv, hc⟩ := hgood q ⟨steps, hroot, hq⟩
    exact ⟨hv, by simp, hc⟩)
  have hchk : checkCycles (mergedContents norm fs files keys) steps [] = .ok () := by
    apply checkCycles_complete
    intro q hq
    have hreach := keyReach_reach hq
    obtain ⟨⟨st, hst⟩, hnc⟩ := hgood q ⟨steps, hroot, hreach⟩
    refine ⟨by simp, ?_, ?_⟩
    · intro hinv
      rw [merged_denot hinv] at hst
      cases hst
    · rintro ⟨st', hl, hcyc⟩
      exact hnc ⟨st', merged_denot hl, q, keyReach_reach hcyc, rfl⟩
  exact ⟨_, parseFiles_eq_ok.mpr ⟨steps, keys, hroot, hkeys, hchk, rfl⟩⟩

/-- Whatever discovery found: if the contents that are going to be used — the discovered files overridden by the
    caller's — contain a reference cycle (by key) reachable from the root workflow, `Parse` returns an error instead of
    handing them to `Prepare` (which would recurse without end).  The proof uses the check on the merged contents only. -/
theorem parse_rejects_cycles_in_used_files (norm : String → String) (fs files : FS) (root : String) (steps : List Step)
    (keys : List String) (hroot : lookup files root = some (.wf steps))
    (hkeys : subworkflowCache norm fs (some files) steps [] [] = .ok keys) (q : String)
    (hq : KeyReach (mergedContents norm fs files keys) steps q)
    (hcyc : KeyOnCycle (mergedContents norm fs files keys) q) :
    ∃ e, parseFiles norm fs files root = .error e := by
  rcases checkCycles_total (mergedContents norm fs files keys) steps [] with h | ⟨e, h⟩
  · exact absurd hcyc (checkCycles_sound h hq).2
  · exact ⟨e, by simp [parseFiles, hroot, hkeys, h]⟩

/-- The only type assertions without comma-ok in engine.go, internal/yaml/parser.go, workflow/yaml.go and
    loadfile/loadfile.go are the ones the model accounts for (see Arca/Expected/Asserts.lean). -/
theorem unchecked_assertions_pinned : Arca.Gen.uncheckedAsserts = Arca.Expected.uncheckedAsserts := rfl

/-- a mapping with a sequence as key is rejected by `transform` (the check of fix 207be84) -/
example : transform (.doc [.map "!!map" "" [(.seq "!!seq" "" [.scalar "!!str" "a"], .scalar "!!str" "v")]])
    = .err .nonScalarKey := rfl

/-- a well-formed document is transformed, decoded by `Raw`, and its `!expr` is built -/
def demoDoc : YNode :=
  .doc [.map "!!map" "" [(.scalar "!!str" "k", .scalar "!expr" "$.input.name"), (.scalar "!!str" "l", .seq "!!seq" "" [.scalar "!!int" "1"])]]

def demoEnv : Env :=
  { parseExpr := fun s => if s == "$.input.name" then .compiles else .rejected
    stepPath := fun _ => none }

example : (match parseRaw demoDoc with
    | .ok (.map [("k", .str "$.input.name"), ("l", .seq [.str "1"])]) => true
    | _ => false) = true := by decide +kernel

example : (match fromYamlPrefix demoEnv demoDoc with
    | .ok (.map [("k", .expr "$.input.name"), ("l", .seq [.str "1"])]) => true
    | _ => false) = true := by
  simp [fromYamlPrefix, demoDoc, demoEnv, transform, transformEntries, transformList, keysScalar, YNode.isScalar,
    build, buildKeys, buildList, mapKeys, mapKeysC, mapKey, mapKeyC, raw, Node.typeID, Node.contents, Node.tag, Node.value,
    buildExpression, compileExpression, Out.mapOk]

/-- a `!expr` tag on a sequence is an error, not a crash -/
example : fromYamlPrefix demoEnv (.doc [.seq "!expr" "" [.scalar "!!str" "a"]]) = .err (.build .nonString) := by
  simp [fromYamlPrefix, transform, transformList, build, Node.tag, buildExpression, Node.typeID]

def foreachStep (file : String) : Step := .map (some (.str "foreach")) (some (.str file))

/-- two files whose loop steps reference each other -/
def cycleFS : FS :=
  [("workflow.yaml", .wf [foreachStep "a.yaml"]),
   ("a.yaml", .wf [foreachStep "b.yaml"]),
   ("b.yaml", .wf [foreachStep "a.yaml"])]

theorem cycleFS_reaches_b : ReachFrom id cycleFS (contextCache id cycleFS "workflow.yaml") "workflow.yaml" "b.yaml" :=
  ⟨[foreachStep "a.yaml"], by decide +kernel, .trans (p := "a.yaml") (sub := [foreachStep "b.yaml"]) (by decide +kernel)
    (by decide +kernel) (.direct (by decide +kernel))⟩

theorem cycleFS_b_on_cycle : OnCycle id cycleFS (some (contextCache id cycleFS "workflow.yaml")) "b.yaml" :=
  ⟨[foreachStep "a.yaml"], by decide +kernel, "b.yaml", .trans (p := "a.yaml") (sub := [foreachStep "b.yaml"])
    (by decide +kernel) (by decide +kernel) (.direct (by decide +kernel)), rfl⟩

/-- the 2-cycle is reported -/
example : ∃ e, parseFiles id cycleFS (contextCache id cycleFS "workflow.yaml") "workflow.yaml" = .error e :=
  (subworkflows_found_or_reported id cycleFS _ "workflow.yaml").2
    ⟨"b.yaml", cycleFS_reaches_b, Or.inr (Or.inr cycleFS_b_on_cycle)⟩

-- the examples below are computed by unfolding the model
attribute [local simp] parseFiles subworkflowCache_eq checkCycles_eq Outcome.bind supLookup stepWorkflowPaths addStepPath stepPath
  insertNew allPresent mergedContents contextCache foreachStep

/-- … and the error is the cycle error -/
example : parseFiles id cycleFS (contextCache id cycleFS "workflow.yaml") "workflow.yaml" = .error .cycle := by
  simp [cycleFS]

/-- a reference to a file that does not exist is reported as missing -/
example : parseFiles id [] [("workflow.yaml", .wf [foreachStep "gone.yaml"])] "workflow.yaml" = .error .missing := by
  simp

/-- a diamond (shared sub-workflow) is accepted and the shared file is in the cache -/
def diamondFS : FS :=
  [("workflow.yaml", .wf [foreachStep "a.yaml", foreachStep "b.yaml", .map (some .other) (some (.str "never.yaml")), .notMap]),
   ("a.yaml", .wf [foreachStep "shared.yaml"]),
   ("b.yaml", .wf [foreachStep "shared.yaml", .map (some (.str "foreach")) none]),
   ("shared.yaml", .wf [])]

example : parseFiles id diamondFS (contextCache id diamondFS "workflow.yaml") "workflow.yaml" =
    .ok ["shared.yaml", "shared.yaml", "shared.yaml", "shared.yaml", "a.yaml", "b.yaml", "workflow.yaml"] := by
  simp [diamondFS]

/-- the caller's files are followed by key and need not be on disk: nothing is on disk here -/
example : parseFiles id [] [("workflow.yaml", .wf [foreachStep "a.yaml"]), ("a.yaml", .wf [])] "workflow.yaml" =
    .ok ["workflow.yaml", "a.yaml"] := by
  simp

/-- a supplied sub-workflow that references itself is reported although the copy on disk is acyclic -/
example : parseFiles id [("a.yaml", .wf [])] [("workflow.yaml", .wf [foreachStep "a.yaml"]), ("a.yaml", .wf [foreachStep "a.yaml"])]
    "workflow.yaml" = .error .cycle := by
  simp

/-- the hypotheses of `parse_rejects_cycles_in_used_files` are about the check alone: a cyclic contents is reported by
    it whatever was discovered -/
example : checkCycles [("workflow.yaml", .wf [foreachStep "a.yaml"]), ("a.yaml", .wf [foreachStep "a.yaml"])]
    [foreachStep "a.yaml"] [] = .error .cycle := by
  simp

end Arca.Props.C11
