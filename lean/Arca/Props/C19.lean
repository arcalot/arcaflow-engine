/-
C19 — invalid input starts nothing; steps see the schema-normalised input.

All statements quantify over ALL schemas of the fragment `Arca.Model.Ty` and ALL input values.  Proved: about the model
of the schema, acceptance = validity, results conform, conforming values are fixed points, and the `Unserialize` /
`Serialize` pair of `Execute` stores exactly the normalised value; about the model of `Execute`'s prologue, an invalid
input starts no step; about the real `Execute` (token list regenerated from the source on every run, independently of
the pinned `Expected` snapshot), the validation call precedes every token that mentions `runnableStep.Start` and is
followed by the error check with `return`; the input file reaches `Execute` as the texts of its scalars; `Execute`
releases the input lock of the prepared workflow on every path, the refusing one included.

What is NOT proved here: that pluginsdk's schema code computes `normalise` (a dependency, outside /repo: validated by the
differential `vharness input | arcadrv input` on generated schemas and documents, trusted otherwise); float text
outside the dyadic-decimal class (`TyErr.unmodelled`: the model gives no verdict, the theorems count it as refused);
`well-formed` (`Ty.wf`: property names of an object are distinct) is a hypothesis wherever the order of an association
list could matter — Go maps guarantee it.
-/
import Arca.Proofs.TyNorm
import Arca.Proofs.TySkel
import Arca.Proofs.SkelUtil
import Arca.Model.RunLoop
import Arca.Gen.Skel
import Arca.Proofs.LockFacts
import Arca.Model.Yaml

namespace Arca.Props.C19
open Arca.Model Arca.Proofs.Ty

/-- normalisation succeeds exactly on the valid values -/
theorem normalise_valid (t : Ty) (v : Val) : (∃ w, normalise t v = .ok w) ↔ valid t v = true := by
  rw [← normalise_isOk]
  cases normalise t v <;> simp [tyOk]

/-- a normalised value conforms to the schema in the strict sense (every scalar has the declared type and satisfies its
    constraints, objects list exactly their declared properties in declaration order), it is itself valid, and every
    property that is required or has a default is present in a normalised object -/
theorem normalised_conforms (t : Ty) (hwf : t.wf = true) (v w : Val) (h : normalise t v = .ok w) :
    conforms t w = true ∧ valid t w = true ∧
    (∀ ps out, t = .obj ps → w = .map out →
      ∀ row ∈ ps.toList, (row.2.1 = true ∨ row.2.2.1.isSome = true) → (lookup row.1 out).isSome = true) := by
  have hc := normalise_conforms t hwf v w h
  refine ⟨hc, ?_, ?_⟩
  · exact (normalise_valid t w).mp ⟨w, conforms_fixed t hwf w hc⟩
  · intro ps out ht hw row hrow hpres
    subst ht hw
    -- the normalised properties are a fixed point of `normProps`: read the presence off that run
    simp only [Ty.wf] at hwf
    simp only [conforms] at hc
    obtain ⟨n, r, d, ty⟩ := row
    exact normProps_present ps out out (conformsProps_fixed ps hwf out hc).1 n r d ty hrow hpres

theorem normalise_idempotent (t : Ty) (hwf : t.wf = true) (v w : Val) (h : normalise t v = .ok w) :
    normalise t w = .ok w :=
  conforms_fixed t hwf w (normalise_conforms t hwf v w h)

theorem normalise_idempotent_bind (t : Ty) (hwf : t.wf = true) (v : Val) :
    (normalise t v >>= normalise t) = normalise t v := by
  cases h : normalise t v with
  | error e => rfl
  | ok w => exact normalise_idempotent t hwf v w h

/-- `Execute` stores the normalised input: re-serialising the unserialised value neither fails nor changes it -/
theorem input_normalised_once (t : Ty) (hwf : t.wf = true) (v : Val) : executeInput t v = normalise t v := by
  unfold executeInput
  cases h : normalise t v with
  | error e => rfl
  | ok w => simp [serialise, normalise_conforms t hwf v w h]

/-- every reference `$.input` of a run evaluates against that one stored value, whichever step or output asks -/
theorem input_reference_same_for_all (P : Prepared) (w : Val) :
    (initData P w).getKey "input" = .ok w := by
  simp [initData, Val.getKey, lookup]

/-- invalid input: `Execute` validates, returns the error, and starts no step — for any number of steps -/
theorem invalid_input_no_start (t : Ty) (v : Val) (nSteps : Nat) (h : valid t v = false) :
    executePrologue t v nSteps = [.validate, .returnError] ∧
    ∀ a ∈ executePrologue t v nSteps, a.isStart = false := by
  have hp : executePrologue t v nSteps = [.validate, .returnError] := by
    cases hh : normalise t v with
    | error e => simp [executePrologue, executeInput, hh]
    | ok w => rw [← normalise_isOk, hh] at h; cases h
  rw [hp]
  exact ⟨rfl, by decide⟩

/-- valid input: after the validation every step is started, and nothing is returned from the prologue -/
theorem valid_input_starts_every_step (t : Ty) (hwf : t.wf = true) (v : Val) (nSteps : Nat) (h : valid t v = true) :
    executePrologue t v nSteps = .validate :: (List.range nSteps).map .startStep := by
  obtain ⟨w, hw⟩ := (normalise_valid t v).mpr h
  simp [executePrologue, input_normalised_once t hwf v, hw]

/-- in the current source, `e.input.Unserialize(serializedInput)` occurs before the first token that mentions
    `runnableStep.Start`: moving the validation behind the start loop breaks this obligation (also after a re-snapshot
    of the `Expected` pins) -/
theorem validation_before_start :
    occursBefore "call:e.input.Unserialize(serializedInput)" mentionsStart
      Arca.Gen.Skel.workflow_workflow_executableWorkflow_Execute = true := by
  -- `mentionsStart` occurs unapplied and is defined with a binder: `simp only` does not unfold it, `delta` does
  delta mentionsStart
  simp only [Arca.Proofs.SkelUtil.toList_eq_chars]
  decide +kernel

/-- the validation is immediately followed by the error check that returns: the failure branch cannot fall through
    into the start loop -/
theorem validation_guarded :
    (after "call:e.input.Unserialize(serializedInput)" Arca.Gen.Skel.workflow_workflow_executableWorkflow_Execute).take 4
      = ["if(err != nil){", "call:e.inputLock.Unlock()", "return", "}"] := by decide +kernel

/-- non-vacuity of `validation_before_start`: the start call is there (after the validation) -/
theorem start_loop_present :
    (after "call:e.input.Unserialize(serializedInput)"
      Arca.Gen.Skel.workflow_workflow_executableWorkflow_Execute).any mentionsStart = true := by
  delta mentionsStart
  simp only [Arca.Proofs.SkelUtil.toList_eq_chars]
  decide +kernel

/-- unfolded reading of `validation_before_start` -/
theorem validation_before_start_spelled :
    ∃ pre post, Arca.Gen.Skel.workflow_workflow_executableWorkflow_Execute =
        pre ++ "call:e.input.Unserialize(serializedInput)" :: post ∧ ∀ t ∈ pre, mentionsStart t = false :=
  occursBefore_sound validation_before_start

/- The front end: the input FILE is read as text, and that reading is what `Execute` receives.

`engineWorkflow.Run` decodes the input file with the engine's own YAML layer (`Arca.Model.Yaml`, differential `parse-tree` of
C11) and hands `Raw()` of the tree to `Execute`.  In that layer a scalar is its TEXT whatever YAML type its spelling suggests
(`007`, `1e1`, `true`, `2024-01-01`, `~`): the declared schema, not the YAML spelling, decides the type, so a document is
refused / accepted / normalised identically whether it reaches `Execute` as a file or as the same texts in a Go value
(correspondence: the `run_leg` of the `input` stream). -/

/-- a scalar of the input file is delivered as its text, whatever its tag and whatever it looks like -/
theorem input_file_scalar_is_its_text (tag v : String) (cs : List Arca.Model.Yaml.Node) :
    Arca.Model.Yaml.raw (.mk .str tag cs v) = .ok (.str v) := by
  simp [Arca.Model.Yaml.raw]

/-- in the current source `Run` decodes with the engine's YAML layer, takes `Raw()` and passes exactly that to `Execute`,
    with only the error check in between (no other decoder, no conversion step) -/
theorem run_passes_the_text_reading_to_execute :
    Arca.Gen.Skel.engine_engineWorkflow_Run.take 6 =
      ["call:yaml.New().Parse(input)", "if(err != nil){", "return", "}", "call:decodedInput.Raw()",
       "call:e.workflow.Execute(ctx,decodedInput.Raw(..))"] := rfl

/- A refused input leaves the prepared workflow usable: the input lock is released on every path.

`Execute` validates the input under `e.inputLock`, a mutex of the PREPARED workflow: a refusing path that kept it would
block every later `Execute` (the why is in Props/C14.lean, in front of `lock_balance_sound`).  The statement is about the
regenerated skeleton of `Execute`, by the lock-balance checker and its soundness theorem. -/

open Arca.Model.LockBalance in
/-- every path of `Execute` to a `return` — the one that refuses the input included — releases the input lock -/
theorem input_lock_released_on_every_path :
    ∃ b, parse "e.inputLock" (Arca.Proofs.LockFacts.toksOf "workflow_workflow_executableWorkflow_Execute") = some b ∧
      ∀ n p, p ∈ pathsB n b → p.2 ≠ .panic → p.2.exits = true ∧ wellBalanced false p.1 := by
  obtain ⟨b, hb, hpaths, _⟩ := Arca.Proofs.LockBalance.balanced_sound "e.inputLock" _ Arca.Proofs.LockFacts.execute_input_lock_balanced.1
  exact ⟨b, hb, hpaths⟩

open Arca.Model.LockBalance in
/-- not vacuous: `Execute` locks `e.inputLock` exactly once, and the token list the checker read IS the regenerated
    skeleton of `Execute` (every token split into a known head and its rest) -/
theorem input_lock_taken_once_in_execute :
    lockCalls "e.inputLock" (Arca.Proofs.LockFacts.toksOf "workflow_workflow_executableWorkflow_Execute") = 1 ∧
    (Arca.Proofs.LockFacts.toksOf "workflow_workflow_executableWorkflow_Execute").map join =
      Arca.Gen.Skel.workflow_workflow_executableWorkflow_Execute ∧
    wellSplit (Arca.Proofs.LockFacts.toksOf "workflow_workflow_executableWorkflow_Execute") = true := by
  exact ⟨Arca.Proofs.LockFacts.execute_input_lock_balanced.2, Arca.Proofs.LockFacts.split_form_is_skeleton.1,
    Arca.Proofs.LockFacts.wellSplit_toksOf _⟩

/-- the same for every function of the run loop and the providers that takes a lock (a helper into which the validation
    is moved is covered without being named): see `Arca.Props.C14.every_lock_released_on_every_path` -/
theorem every_lock_released : Arca.Proofs.LockFacts.lockPairs.all
    (fun p => Arca.Model.LockBalance.balanced p.2.1 p.2.2 || Arca.Proofs.LockFacts.knownUnbalanced.contains (p.1, p.2.1)) = true :=
  Arca.Proofs.LockFacts.all_locks_released_on_every_path

def demoTy : Ty :=
  .obj (.cons "n" false (some (.int 7)) (.int (some 0) (some 20))
       (.cons "flag" true none .bool
       (.cons "tags" false none (.list (.str (some 1) none (some (.all .lower true))) none (some 3)) .nil)))

def okIs (r : Except TyErr Val) (w : Val) : Bool :=
  match r with
  | .ok x => x == w
  | .error _ => false

example : demoTy.wf = true := by decide +kernel

/-- strings become typed values and the default is filled in -/
example : okIs (executeInput demoTy (.map [("flag", .str "Yes"), ("tags", .list [.str "ab"])]))
    (.map [("n", .int 7), ("flag", .bool true), ("tags", .list [.str "ab"])]) = true := by decide +kernel

example : okIs (executeInput demoTy (.map [("flag", .bool false), ("n", .str "012")]))
    (.map [("n", .int 12), ("flag", .bool false)]) = true := by decide +kernel

/-- invalid in one way each: missing required field, out of range, pattern mismatch, unknown field, null -/
example : valid demoTy (.map [("n", .int 3)]) = false := by decide +kernel
example : valid demoTy (.map [("flag", .bool true), ("n", .int 21)]) = false := by decide +kernel
example : valid demoTy (.map [("flag", .bool true), ("tags", .list [.str "aB"])]) = false := by decide +kernel
example : valid demoTy (.map [("flag", .bool true), ("extra", .int 1)]) = false := by decide +kernel
example : valid demoTy .null = false := by decide +kernel

example : executePrologue demoTy (.map [("n", .int 3)]) 3 = [.validate, .returnError] := by decide +kernel
example : executePrologue demoTy (.map [("flag", .int 1)]) 2 = [.validate, .startStep 0, .startStep 1] := by decide +kernel

end Arca.Props.C19
