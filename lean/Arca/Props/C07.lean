/-
C07 — run-time evaluation and step failures surface as errors, never as a crash (run-loop part).  No history of callbacks
that respects the provider contract `LegalEvent` (what the providers guarantee, C12) makes a reaction panic, for every
workflow satisfying the decidable, run-time checked `WF2`.  Expression evaluation cannot panic the loop at all: a failing
evaluation is reported through the error channel (`processNode` on the `.error` outcome of `resolveIn`).  Each hypothesis
is backed by a kernel-checked counterexample to the statement without it (LoopSafeCex.lean, LoopFinishedCex.lean; the two
that concern the completion callback are restated below).
-/
import Arca.Proofs.LoopSafe
import Arca.Proofs.LoopSafeCex
import Arca.Proofs.LoopFinishedCex
import Arca.Proofs.LoopInv
import Arca.Gen.Recover
import Arca.Gen.Skel
import Arca.Proofs.TySkel
import Arca.Gen.Sinks
import Arca.Gen.Lifecycle
import Arca.Gen.Builtins
import Arca.Expected.C07

namespace Arca.Props.C07
open Arca.Model

theorem legal_history_never_panics (P : Prepared) (fns : Fns) (ord : Order) (hord : OrdOK ord) (hnd : OrdNodup ord)
    (hP : P.WF2) (h : List Event) (hl : LegalHistory P fns ord (LoopState.init P) h) :
    (∀ a ∈ (run P fns ord h).2, a.isPanic = false) ∧ (run P fns ord h).1.dead = false :=
  Arca.Model.legal_history_never_panics P fns ord hord hnd hP h hl

/-- one legal callback in a safe state: no panic, and the safety invariant is kept -/
theorem legal_callback_never_panics (P : Prepared) (fns : Fns) (ord : Order) (hord : OrdOK ord) (hnd : OrdNodup ord)
    (hP : P.WF2) (s : LoopState) (e : Event) (h : LoopDagInv P s) (hc : LoopSafeInv P s) (hl : LegalEvent P s e) :
    (∀ a ∈ (react P fns ord s e).2, a.isPanic = false) ∧ LoopSafeInv P (react P fns ord s e).1 :=
  react_legal_no_panic P fns ord hord hnd hP s e h hc hl

/-- graph level: marking a node that is not resolved unresolvable always succeeds (no "already set" conflict
    downstream) when resolved nodes are closed under their hard dependencies -/
theorem mark_unresolvable_succeeds (g : Graph String) (h : g.Inv) (hc : ResolvedClosed g) (id : String) (n : Node String)
    (hn : g.find? id = some n) (hs : n.status ≠ St.resolved) :
    ∃ g', g.resolve id St.unres = .ok g' ∧ ResolvedClosed g' := by
  obtain ⟨g', hok, hc'⟩ := Graph.resolve_unres_succeeds h ((resolvedClosed_iff g h.nodup).1 hc) hn hs
  exact ⟨g', hok, (resolvedClosed_iff g' (Graph.inv_resolve g g' id _ h hok).nodup).2 hc'⟩

/-- the propagation fuel of the graph model is never exhausted (termination of `resolve` is not assumed) -/
theorem propagation_fuel_suffices (g : Graph String) (h : g.Inv) (id : String) (st : St) :
    g.resolve id st ≠ .error DgErr.fuel :=
  Graph.resolve_no_fuel_error g h id st

/-- the loop dies only through an explicit panic action -/
theorem dead_only_by_panic (P : Prepared) (fns : Fns) (ord : Order) (s : LoopState) (e : Event)
    (hs : s.dead = false) (hd : (react P fns ord s e).1.dead = true) :
    ∃ a ∈ (react P fns ord s e).2, a.isPanic = true :=
  react_dead_only_by_panic P fns ord s e hs hd

/-- why `LoopSafeInv` has the clause `finished`: with the other four clauses alone a legal completion callback can panic
    (the loop marks a resolved stage node it does not find in `finishedStages`) -/
theorem completion_needs_finished_bookkeeping :
    ¬ (∀ (P : Prepared) (fns : Fns) (ord : Order), OrdOK ord → OrdNodup ord → P.WF2 → ∀ (s : LoopState) (e : Event),
        LoopDagInv P s → ResolvedClosed s.dag → s.dag.ready.Nodup →
        (∀ id ∈ s.dag.ready, isGroup P id → ¬ statusIs s.dag id St.resolved) →
        (∀ n ∈ s.dag.nodes, n.status = St.resolved → isGroup P n.id → ∀ p ∈ n.out, p.2.hard = false) →
        LegalEvent P s e →
        (∀ a ∈ (react P fns ord s e).2, a.isPanic = false) ∧ ResolvedClosed (react P fns ord s e).1.dag) :=
  SafeCex.react_needs_finished_inv

/-- why `WF2` has the clause `stage_unamb`: with the other clauses alone (`SafeCex.WF2Prev`) a legal history makes the loop
    panic when a stage node id can be read as a stage of two different steps -/
theorem completion_needs_unambiguous_stage_ids :
    ¬ (∀ (P : Prepared) (fns : Fns) (ord : Order), OrdOK ord → OrdNodup ord → SafeCex.WF2Prev P → ∀ h : List Event,
        LegalHistory P fns ord (LoopState.init P) h →
        (∀ a ∈ (run P fns ord h).2, a.isPanic = false) ∧ (run P fns ord h).1.dead = false) :=
  SafeCex.hist_needs_stage_unamb

/-- non-vacuity: `WF2` is satisfiable by a workflow with a dependency-group node -/
example : SafeCex.PC.WF2 := SafeCex.PC_wf2

/-- … and by a step with two stages, on which a history with a completion callback is legal and fine -/
example : SafeCex.PG.WF2 := SafeCex.PG_wf2
example : SafeCex.hasPanic (run SafeCex.PG SafeCex.fns0 id [.start .null, .stageChange "a" (some "s") none false,
    .stepComplete "a" "t" none false]).2 = false := SafeCex.PG_run_fine

/-! ## The tie of "evaluation faults become errors" to the source

The model (`processNode` on the `.error` outcome of `resolveIn`) covers every outcome of an evaluation that RETURNS.  A Go panic during evaluation is
turned into a returned error by the deferred recover handler of `resolveExpressions`; that step is outside the model and is
tied to the code here, over the regenerated tables `Arca.Gen.recoverSites / recoverAsserts / runAsserts / builtinSinks`:

* the handler exists, and nothing inside a recover handler (anywhere in the engine library) asserts a type on the recovered
  value without comma-ok - `recover()` returns whatever was passed to `panic`, which for reflect misuse is a plain string,
  so `r.(error)` would itself panic inside the handler, on a goroutine nobody recovers;
* the unchecked type assertions of the run loop are the ones justified in Arca/Expected/C07.lean;
* what recover cannot catch ("fatal error: out of memory") is kept away by range checks inside the built-ins: every integer
  parameter that reaches a library call as a size-like argument is guarded by a check on that parameter ALONE. -/

/-- No type assertion without comma-ok inside a deferred recover handler or on a value produced by `recover()`, in any
    non-test file of the engine library. -/
theorem no_unchecked_assertion_on_recovered_value :
    Arca.Gen.recoverAsserts.filter (fun a => !a.2.2.2.2) = [] := by decide +kernel

/-- `resolveExpressions` (every frame of the recursion) defers a recover handler. -/
theorem resolveExpressions_recovers :
    ("workflow/workflow.go", "loopState.resolveExpressions") ∈ Arca.Gen.recoverSites := by decide +kernel

/-! ### defaults of the input section are decoded while the workflow is prepared (fix 2d63d83)

The SDK decodes the default values of an object schema on first use and PANICS on one it cannot decode; for the input
section of a workflow that first use was the first run.  In the current source `Prepare` decodes them (on copies, under
`recover`) before anything else looks at the input scope, and a failure leaves `processInput` through the error return. -/

/-- `processInput` validates the defaults right after the scope was unserialized, and the failure branch returns -/
theorem input_defaults_validated_when_prepared :
    (Arca.Proofs.Ty.after "call:validateDefaults(typedInput)" Arca.Gen.Skel.workflow_executor_executor_processInput).take 3
      = ["if(err != nil){", "return", "}"] := by decide +kernel

/-- `Prepare` processes the input section before it loads any step -/
theorem input_processed_before_steps :
    Arca.Proofs.Ty.occursBefore "call:e.processInput(workflow)" (fun t => t == "call:e.processSteps(workflow,dag,workflowContext)")
      Arca.Gen.Skel.workflow_executor_executor_Prepare = true := by decide +kernel

/-- the validation runs under a recover handler (a default the SDK cannot decode becomes an error, not a crash) and decodes
    the defaults of every object of the scope -/
theorem validateDefaults_recovers_and_decodes :
    ("workflow/executor.go", "validateDefaults") ∈ Arca.Gen.recoverSites ∧
    "call:recover()" ∈ Arca.Gen.Skel.workflow_executor__validateDefaults ∧
    (Arca.Proofs.Ty.after "range(scope.Objects()){" Arca.Gen.Skel.workflow_executor__validateDefaults).take 1
      = ["call:schema.NewObjectSchema(object.ID(), object.Properties()).GetDefaults()"] := by decide +kernel

/-- The recover handlers of the engine library are the two that were reviewed. -/
theorem recover_sites_pinned : Arca.Gen.recoverSites = Arca.Expected.C07.recoverSites := by rfl

/-- The unchecked type assertions of workflow/workflow.go are exactly the reviewed ones (all on containers the run loop
    allocated itself, none on run-time data). -/
theorem run_loop_unchecked_assertions_pinned :
    Arca.Gen.runUncheckedAsserts = Arca.Expected.C07.runUncheckedAsserts := by rfl

/-- The integer parameters of built-in handlers that flow into library calls are the reviewed ones. -/
theorem builtin_sinks_pinned : Arca.Gen.builtinSinks = Arca.Expected.C07.builtinSinks := by rfl

/-- Every integer parameter of a built-in that reaches a library call is either a plain value there or range-checked, before
    the call, by a condition that mentions no other parameter or local variable (so it holds for every value of the other
    arguments). -/
theorem numeric_sink_arguments_guarded :
    ∀ r ∈ Arca.Gen.builtinSinks, (r.2.1, r.2.2.1) ∈ Arca.Expected.C07.valueSinks ∨ r.2.2.2.2.2 ≠ [] := by decide +kernel

/-- floatToFormattedString: the precision handed to strconv.FormatFloat is checked against exactly the declared parameter
    range `[-1, maxFormatPrecision]`, whatever the format is, and that bound is small (the up-front allocation of FormatFloat
    is `precision + 4` bytes). -/
theorem format_float_precision_guarded_for_every_format :
    (∃ r ∈ Arca.Gen.builtinSinks, r.1 = "floatToFormattedString" ∧ r.2.1 = "strconv.FormatFloat" ∧ r.2.2.1 = 2 ∧
        r.2.2.2.1 = "precision" ∧ r.2.2.2.2.2 = ["precision < -1 || precision > maxFormatPrecision"]) ∧
    (∃ b ∈ Arca.Gen.builtins, b.id = "floatToFormattedString" ∧
        b.params[2]? = some "int[schema.PointerTo[int64](-1),schema.PointerTo[int64](maxFormatPrecision)]") ∧
    (∃ c ∈ Arca.Gen.builtinGuardBounds, c.1 = "maxFormatPrecision" ∧ c.2 ≤ 1000000) := by
  refine ⟨?_, ?_, ?_⟩ <;> decide +kernel

/-- Every input field of every lifecycle stage of both step kinds is a position at which the `evalpos` stream places
    faulty expressions. -/
theorem positions_cover_lifecycle_inputs :
    ∀ row ∈ Arca.Gen.pluginStages ++ Arca.Gen.foreachStages, ∀ f ∈ row.inputFields,
      f ∈ Arca.Expected.C07.coveredInputFields := by decide +kernel

/-- non-vacuity of the tables: there is a recover site, there are run-loop assertions, there is a guarded sink -/
example : Arca.Gen.recoverSites ≠ [] ∧ Arca.Gen.runUncheckedAsserts ≠ [] ∧ Arca.Gen.builtinSinks ≠ [] := by decide +kernel

end Arca.Props.C07
