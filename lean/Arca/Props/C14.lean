/-
C14 — a prepared workflow can be run again and concurrently with identical results.

1. FRAME (facts regenerated from /repo/workflow on every run, `Arca.Gen.Frame`): in the functions reachable from
   `Execute` no statement writes a field of the prepared workflow, or through anything but the per-run loop state and
   locations made in the same function; every mutable `loopState` field starts from a fresh allocation, a literal or
   `e.dag.Clone()`.  The remaining channel between runs are METHOD CALLS on shared objects; they are enumerated
   (`shared_calls_enumerated`).  That those methods do not mutate their receivers is NOT visible in package workflow: an
   assumption, checked dynamically by `vharness rerun` and by the race-detector build.  It was false of
   `e.input.Unserialize` (pluginsdk's `GetDefaults` fills a cache lazily and unsynchronised; DESIGN.md 15.5, rows 7a544b4
   and 5340487): `Execute` makes these calls under `e.inputLock`, hence the two lock calls in the enumeration.  The
   locks of the prepared workflow are the second half of this part: the paragraph in front of `lock_balance_sound`.
2. CLONE: that an operation on the clone leaves the original unchanged is trivially true in a functional model; for the
   real `dgraph.Clone()` it is part of the dynamic check (a run on an uncloned DAG crashes the re-run stream).
3. FUNCTION: the model's run is a function of (prepared workflow, functions, order, history) by construction.  This
   says that the MODEL has no hidden channel between runs, and nothing about the code beyond parts 1–2 and the
   differential.
-/
import Arca.Model.RunLoop
import Arca.Gen.Frame
import Arca.Proofs.LockFacts

namespace Arca.Props.C14
open Arca.Model

/-- no statement reachable from `Execute` writes a field of the prepared workflow (or through an alias / range variable
    of one) -/
theorem run_frame : Arca.Gen.executableWorkflowWrites = [] := by decide

/-- no heap write reachable from `Execute` goes anywhere but into the loop state or a location made in the same
    function: DAG items, expression objects (`OneOfExpression`, `OptionalExpression`) and parameters are only read -/
theorem run_frame_other : Arca.Gen.otherHeapWrites = [] := by decide

/-- the `loopState` fields that a run mutates (by assignment, map update, delete, send, close — or, for `dag`,
    `context`/`cancel`, through their methods) -/
def mutableFields : List String :=
  ["dag", "data", "runningSteps", "reportedStages", "completedSteps", "finishedStages", "outputDataChannel", "outputDone",
   "waitingOutputs", "recentErrors", "context", "cancel", "lock"]

/-- initialiser kinds that cannot be shared with another run -/
def freshKinds : List String :=
  ["fresh:make", "fresh:literal", "fresh:context.WithCancel", "clone", "literal"]

def lookupS (k : String) : List (String × String) → Option String
  | [] => none
  | (k', v) :: rest => if k = k' then some v else lookupS k rest

def freshlyInitialised (f : String) : Bool :=
  match lookupS f Arca.Gen.loopStateInitKind with
  | some k => freshKinds.contains k
  | none => false

/-- every mutable field of the loop state starts from a fresh allocation, a literal or a clone -/
theorem run_state_fresh : mutableFields.all freshlyInitialised = true := by decide +kernel

/-- every field the loop writes (as extracted from the current source) is on the list above -/
theorem written_fields_are_listed :
    Arca.Gen.loopStateWrites.all (fun w => mutableFields.contains w.2) = true := by decide +kernel

/-- the fields that ARE shared with the prepared workflow are never written by the loop -/
theorem shared_fields_not_written :
    (Arca.Gen.loopStateInitKind.filter (fun p => !freshKinds.contains p.2)).all
      (fun p => Arca.Gen.loopStateWrites.all (fun w => w.2 != p.1)) = true := by decide +kernel

/-- the DAG handed to the run is the clone, and it is the only use of `Clone` needed: the literal says so -/
theorem dag_is_cloned : lookupS "dag" Arca.Gen.loopStateInit = some "e.dag.Clone()" := by decide +kernel

/-- the calls made through shared objects are exactly these; each is an assumption "does not mutate its receiver /
    argument" that package workflow cannot discharge (see the file comment for the one found false) -/
theorem shared_calls_enumerated :
    Arca.Gen.executableWorkflowSharedCalls =
      [("executableWorkflow.Execute", "e.dag.Clone"),
       ("executableWorkflow.Execute", "e.dag.ListNodes"),
       ("executableWorkflow.Execute", "e.input.Serialize"),
       ("executableWorkflow.Execute", "e.input.Unserialize"),
       ("executableWorkflow.Execute", "e.inputLock.Lock"),
       ("executableWorkflow.Execute", "e.inputLock.Unlock"),
       ("executableWorkflow.Execute", "runnableStep.Start (range:e.runnableSteps)"),
       ("executableWorkflow.Execute", "runnableStep.Start(..e.stepRunData[stepID]..)"),
       ("executableWorkflow.handleOutput", "outputSchema.Unserialize (alias:e.outputSchema)"),
       ("loopState.resolveExpressions", "expr.Evaluate(..l.callableFunctions..)"),
       ("loopState.resolveExpressions", "expr.Evaluate(..l.workflowContext..)"),
       ("loopState.resolveOptionalExpression", "expr.Expr.Evaluate(..l.callableFunctions..)"),
       ("loopState.resolveOptionalExpression", "expr.Expr.Evaluate(..l.workflowContext..)")] := rfl

/-- the expression objects of internal/infer (one-of, optional), which live in the prepared workflow's DAG items and are
    shared by all runs, are never written through their own methods (`String`, `Type`, `Dependencies`, ...): no lazily
    cached field, no counter.  The run loop calls these methods (also as arguments of log calls) under the PER-RUN lock only. -/
theorem shared_expression_objects_not_written_by_their_methods : Arca.Gen.sharedExprReceiverWrites = [] := by decide

/-- the analysis looked at the run loop: the functions that mutate the loop state are in the analysed set -/
theorem frame_covers_run_loop :
    (["executableWorkflow.Execute", "executableWorkflow.handleOutput", "loopState.onStageComplete", "loopState.notifySteps",
      "loopState.markOutputsUnresolvable", "loopState.markStageNodeUnresolvable",
      "loopState.markRemainingStagesUnresolvable", "loopState.checkForDeadlocks",
      "loopState.resolveExpressions", "loopState.resolveOneOfExpression", "loopState.resolveOptionalExpression",
      "loopState.terminateAllSteps", "loopState.reportError", "loopState.getLastError"].all
        (fun f => Arca.Gen.frameFunctions.contains f)) = true := by decide +kernel

/- What a run acquires from the prepared workflow it gives back, on every path.  The frame facts say that no run WRITES a
field of the prepared workflow; the mutexes are the exception by design: `e.inputLock` is state of the prepared workflow
that every run changes and must change back.  A run that returns on some path with the mutex held (e.g. the path that
refuses an invalid input) makes every later run block. -/

open Arca.Model.LockBalance in
/-- `Arca.Proofs.LockBalance.balanced_sound` under this property -/
theorem lock_balance_sound (m : String) (toks : List SplitTok) (h : balanced m toks = true) :
    ∃ b, parse m toks = some b ∧
      (∀ n p, p ∈ pathsB n b → p.2 ≠ .panic → p.2.exits = true ∧ wellBalanced false p.1) ∧
      (∀ l ∈ litsB b, ∀ n p, p ∈ pathsB n l → p.2 ≠ .panic → p.2.exits = true ∧ wellBalanced false p.1) :=
  Arca.Proofs.LockBalance.balanced_sound m toks h

/-- every mutex locked by any function of the run loop / providers is released on every path to a return; the single
    exception is listed by name (`knownUnbalanced`: the run lock on the launch-failure return of `Execute`, per-run state) -/
theorem every_lock_released_on_every_path :
    Arca.Proofs.LockFacts.lockPairs.all
      (fun p => Arca.Model.LockBalance.balanced p.2.1 p.2.2 || Arca.Proofs.LockFacts.knownUnbalanced.contains (p.1, p.2.1)) = true :=
  Arca.Proofs.LockFacts.all_locks_released_on_every_path

/-- in particular the lock of the PREPARED workflow: `Execute` takes `e.inputLock` once and releases it on every path -/
theorem input_lock_balanced_in_execute :
    Arca.Model.LockBalance.balanced "e.inputLock" (Arca.Proofs.LockFacts.toksOf "workflow_workflow_executableWorkflow_Execute") = true ∧
    Arca.Model.LockBalance.lockCalls "e.inputLock" (Arca.Proofs.LockFacts.toksOf "workflow_workflow_executableWorkflow_Execute") = 1 :=
  Arca.Proofs.LockFacts.execute_input_lock_balanced

/-- the facts are about the source: non-empty, every pair contains its `Lock()` call, no labelled jump (a label is not
    part of a token), every token has a known head, and the heads are the ones the checker reads -/
theorem lock_facts_meaningful :
    (Arca.Proofs.LockFacts.lockPairs.all (fun p => decide (1 ≤ Arca.Model.LockBalance.lockCalls p.2.1 p.2.2)) = true ∧
      Arca.Proofs.LockFacts.lockPairs ≠ []) ∧
    Arca.Gen.Locks.labeledJumps = [] ∧
    Arca.Gen.Locks.lockFunctions.all (fun f => Arca.Model.LockBalance.wellSplit f.2.2.2) = true ∧
    Arca.Gen.Locks.tokenHeads = Arca.Model.LockBalance.tokHeads :=
  ⟨Arca.Proofs.LockFacts.every_pair_locks, Arca.Proofs.LockFacts.no_labeled_jumps, Arca.Proofs.LockFacts.all_well_split,
   Arca.Proofs.LockFacts.heads_agree⟩

/-- the token lists the checker read are the regenerated skeletons (`Arca.Gen.Skel`): four of the 23 equations of
    `Arca.Proofs.LockFacts.split_form_is_skeleton`, which has them all — `Execute`, one more function of the run loop, one
    of each provider -/
theorem lock_facts_are_the_skeletons :
    (Arca.Proofs.LockFacts.toksOf "workflow_workflow_executableWorkflow_Execute").map Arca.Model.LockBalance.join =
      Arca.Gen.Skel.workflow_workflow_executableWorkflow_Execute ∧
    (Arca.Proofs.LockFacts.toksOf "workflow_workflow_loopState_onStageComplete").map Arca.Model.LockBalance.join =
      Arca.Gen.Skel.workflow_workflow_loopState_onStageComplete ∧
    (Arca.Proofs.LockFacts.toksOf "step_plugin_provider_runningStep_ProvideStageInput").map Arca.Model.LockBalance.join =
      Arca.Gen.Skel.step_plugin_provider_runningStep_ProvideStageInput ∧
    (Arca.Proofs.LockFacts.toksOf "step_foreach_provider_runningStep_ProvideStageInput").map Arca.Model.LockBalance.join =
      Arca.Gen.Skel.step_foreach_provider_runningStep_ProvideStageInput :=
  have h := Arca.Proofs.LockFacts.split_form_is_skeleton
  ⟨h.1, h.2.1, h.2.2.1, h.2.2.2.1⟩

/-- the known exception is exactly one way out of `Execute` with the per-run lock held -/
theorem run_lock_exception_is_one_exit :
    Arca.Model.LockBalance.balanced "l.lock" (Arca.Proofs.LockFacts.toksOf "workflow_workflow_executableWorkflow_Execute") = false ∧
    Arca.Proofs.LockFacts.unbalancedExits "l.lock" (Arca.Proofs.LockFacts.toksOf "workflow_workflow_executableWorkflow_Execute") = 1 :=
  Arca.Proofs.LockFacts.verdicts_checked.2.2

/-- `Clone()` keeps nodes (ids, statuses, outstanding and resolved dependencies) and edges, and starts with an empty
    ready set; and — trivially, in a functional model — whatever is computed from the clone, the original is the value it
    was -/
theorem clone_independent {ι : Type} [DecidableEq ι] (g : Graph ι) :
    g.clone.nodes = g.nodes ∧ g.clone.edges = g.edges ∧ g.clone.ready = [] ∧
    (∀ id, g.clone.statusOf id = g.statusOf id) ∧
    (∀ {α : Type} (op : Graph ι → α), (op g.clone, g).2 = g) := by
  refine ⟨rfl, rfl, rfl, fun _ => rfl, fun _ => rfl⟩

/-- cloning twice gives equal, independent starting points: two runs start from the same graph -/
theorem clone_clone {ι : Type} [DecidableEq ι] (g : Graph ι) : g.clone.clone = g.clone := rfl

/-- every run starts from a state built from the prepared workflow alone -/
theorem run_starts_from_prepared (P : Prepared) :
    (LoopState.init P).dag = P.dag.clone ∧ (LoopState.init P).data = .map [] ∧
    (LoopState.init P).outputDone = false ∧ (LoopState.init P).errs = 0 ∧ (LoopState.init P).cancelled = false ∧
    (LoopState.init P).result = none ∧ (LoopState.init P).finished = [] :=
  ⟨rfl, rfl, rfl, rfl, rfl, rfl, rfl⟩

/-- equal (prepared workflow, functions, order, history) give equal results.  By construction: `run` is a Lean function
    and `Prepared` is a value, so there is no state through which an earlier or overlapping run could be seen. -/
theorem execute_is_function_of_inputs (P P' : Prepared) (fns fns' : Fns) (ord ord' : Order) (h h' : List Event)
    (hP : P = P') (hf : fns = fns') (ho : ord = ord') (hh : h = h') :
    run P fns ord h = run P' fns' ord' h' := by
  subst hP hf ho hh; rfl

/-- a sequence of runs of one prepared workflow: run `k` returns what it returns alone, whatever ran before it
    (failed, cancelled or successful), since nothing of the earlier runs is an argument of `run` -/
theorem later_run_unaffected (P : Prepared) (fns : Fns) (earlier : List (Order × List Event)) (ord : Order) (h : List Event) :
    ((earlier ++ [(ord, h)]).map (fun r => run P fns r.1 r.2)).getLast? = some (run P fns ord h) := by
  simp

end Arca.Props.C14
