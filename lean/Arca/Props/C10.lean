/-
C10 — preparation builds exactly the dependency graph the workflow text implies.

All statements quantify over every abstract workflow `wf` (any number of steps, any nesting of lists / maps / `!oneof` /
`!ordisabled` / optional tags) and every set `po` of outputs the plugin step declares; the lifecycles are the tables
generated from /repo (`Arca.Gen.Lifecycle`).

`prepare po wf = .ok (g, items)` is "the workflow is accepted with dependency graph `g`"; `g` is a graph over the Go
string ids, built by the same sequence of `AddNode` / `ConnectDependency` calls as `executor.Prepare` performs.

Not covered here (differential only): type compatibility of stage inputs with the step's schema, fields inside typed
outputs, the provider schema of a step.
-/
import Arca.Proofs.PrepareExact

namespace Arca.Props.C10
open Arca.Model

/-- Soundness: every edge of the graph of an accepted workflow is the ordering of a step's own stages, a stage →
output edge, or the dependency some reference in the text requires — with exactly that dependency type. -/
theorem prepare_edges_sound (po : List String) (wf : Wf) (g : Graph String) (items : List (String × Item))
    (h : prepare po wf = .ok (g, items)) :
    ∀ e ∈ g.edges, e ∈ lifecycleEdges wf ∨ e ∈ stageOutEdges po wf ∨ e ∈ impliedEdges po wf :=
  fun _ he => mem_declared_rendered.1 ((edges_iff_declared (prepare_built h)).1 he)

/-- Completeness: every lifecycle edge, every stage → output edge and every dependency a reference requires is an edge
of the graph, with the dependency type its tag requires (required = `and`, one-of = `or` below an `and` group,
`!wait-optional` = completion-and, `!soft-optional` = optional). -/
theorem prepare_edges_complete (po : List String) (wf : Wf) (g : Graph String) (items : List (String × Item))
    (h : prepare po wf = .ok (g, items)) :
    ∀ e, (e ∈ lifecycleEdges wf ∨ e ∈ stageOutEdges po wf ∨ e ∈ impliedEdges po wf) → e ∈ g.edges :=
  fun _ he => (edges_iff_declared (prepare_built h)).2 (mem_declared_rendered.2 he)

/-- The dependency graph of an accepted workflow contains a dependency for every reference (of the kind its tag
requires) plus the ordering of each step's own stages (and stage → output), and nothing else. -/
theorem prepare_edges_sound_complete (po : List String) (wf : Wf) (g : Graph String) (items : List (String × Item))
    (h : prepare po wf = .ok (g, items)) :
    ∀ e, e ∈ g.edges ↔ (e ∈ lifecycleEdges wf ∨ e ∈ stageOutEdges po wf ∨ e ∈ impliedEdges po wf) :=
  fun e => ⟨prepare_edges_sound po wf g items h e, prepare_edges_complete po wf g items h e⟩

/-- An accepted workflow is acyclic (`HasCycles` of the dgraph model; Kahn elimination as in the Go code). -/
theorem prepare_acyclic (po : List String) (wf : Wf) (g : Graph String) (items : List (String × Item))
    (h : prepare po wf = .ok (g, items)) : g.hasCycles = false :=
  (prepare_ok h).2.1

/-- A workflow whose operation sequence runs through but leaves a cyclic graph is rejected, as a cycle. -/
theorem prepare_rejects_cycle (po : List String) (wf : Wf) (g : Graph String)
    (hb : build po wf = .ok g) (hc : g.hasCycles = true) : prepare po wf = .error .cycle := by
  simp [prepare, hb, hc]

/-- In an accepted workflow every reference (every dependency path of every expression at every site, including the
generated `disabled` alternative of `!ordisabled`) names an existing workflow input field or declared step stage /
stage output, and the node it names is a node of the graph. -/
theorem prepare_refs_exist (po : List String) (wf : Wf) (g : Graph String) (items : List (String × Item))
    (h : prepare po wf = .ok (g, items)) :
    ∀ σ ∈ wf.allSites, ∀ e ∈ σ.exprs, ∀ p ∈ Expr.deps e,
      ∃ a, wf.resolve po p = .ok a ∧ a.isRef ∧ g.has a.render = true := by
  have hB := prepare_built h
  intro σ hσ e he p hp
  rcases site_expr_ops (R := wf.resolve po) he hp with ⟨a, c, h1, h2⟩ | ⟨r, h2⟩
  · exact ⟨a, h1, resolve_isRef h1, (hB.endpoints (site_mem_ops hσ h2)).1⟩
  · exact absurd (site_mem_ops hσ h2) (hB.nofail r)

/-- Dangling workflows are rejected: if some reference does not resolve, preparation fails. -/
theorem prepare_rejects_dangling (po : List String) (wf : Wf)
    (hd : ∃ σ ∈ wf.allSites, ∃ e ∈ σ.exprs, ∃ p ∈ Expr.deps e, ∃ r, wf.resolve po p = .error r) :
    ∃ r, prepare po wf = .error r := by
  obtain ⟨σ, hσ, e, he, p, hp, r, hr⟩ := hd
  cases h : prepare po wf with
  | error r' => exact ⟨r', rfl⟩
  | ok gi =>
    obtain ⟨a, ha, _⟩ := prepare_refs_exist po wf gi.1 gi.2 h σ hσ e he p hp
    rw [hr] at ha
    cases ha

/-- An expression that is only the data root `$` (anywhere: a stage input, a workflow output, below a tag) is rejected
(the guard `len(dependency) < 2` of `prepareExprDependencies`). -/
theorem prepare_rejects_root_ref (po : List String) (wf : Wf)
    (h : ∃ σ ∈ wf.allSites, Expr.root ∈ σ.exprs) : ∃ r, prepare po wf = .error r := by
  obtain ⟨σ, hσ, he⟩ := h
  exact prepare_rejects_dangling po wf
    ⟨σ, hσ, .root, he, [], by simp [Expr.deps], .rootRef, by simp [Wf.resolve]⟩

/-- `prepare` has no panic outcome: it accepts, or rejects with an ordinary error class.  (The model mirrors every
statement of `executor.Prepare` that can fail; since the `len(dependency) < 2` guard none of them is a Go panic.) -/
theorem prepare_never_panics (po : List String) (wf : Wf) :
    (∃ g items, prepare po wf = .ok (g, items)) ∨ (∃ r, prepare po wf = .error r ∧ r.cls ≠ "panic") := by
  cases h : prepare po wf with
  | ok gi => exact Or.inl ⟨gi.1, gi.2, rfl⟩
  | error r =>
    refine Or.inr ⟨r, rfl, ?_⟩
    cases r with
    | graph e => cases e <;> simp [Reject.cls]
    | _ => simp [Reject.cls]

/-- The graph of an accepted workflow satisfies the dgraph invariant (unique ids, one edge per pair between existing
nodes, outstanding-dependency lists in step with the edges), all nodes are waiting, nothing is resolved or ready. -/
theorem prepare_inv (po : List String) (wf : Wf) (g : Graph String) (items : List (String × Item))
    (h : prepare po wf = .ok (g, items)) :
    g.Inv ∧ (∀ n ∈ g.nodes, n.status = St.waiting ∧ n.res = []) ∧ g.ready = [] :=
  have hf := (prepare_built h).fresh
  ⟨hf.inv, hf.waiting, hf.ready⟩

/-- The nodes are exactly the ones the operation sequence declares: rendered ids pairwise distinct (no two structured
nodes share a Go id in an accepted workflow). -/
theorem prepare_nodes_exact (po : List String) (wf : Wf) (g : Graph String) (items : List (String × Item))
    (h : prepare po wf = .ok (g, items)) :
    g.nodes.map (·.id) = (nodeIds (wf.ops po)).map NodeId.render ∧ ((nodeIds (wf.ops po)).map NodeId.render).Nodup :=
  ⟨(prepare_built h).ids, (prepare_built h).nodup⟩

/-! ### several references in one expression; several tagged fields on one source

The operation sequence connects the consumer to the producer of EVERY dependency path of an expression with a tolerated
(idempotent) `ConnectDependency`: a dependency whose producer the node is already connected to - by an earlier expression
of the same node, or by an earlier path of the same expression - is skipped, and the walk goes on with the next one. -/

/-- Every reference of a plain expression gets its `and` edge - whichever other expression of the same node, or earlier
reference of the same expression, already connected the node to some producer: the statement quantifies over every
dependency path `p` of `e` separately, with no hypothesis about the others. -/
theorem prepare_every_ref_connected (po : List String) (wf : Wf) (g : Graph String) (items : List (String × Item))
    (h : prepare po wf = .ok (g, items)) (cur : NodeId) (path : List String) (e : Expr)
    (hσ : Site.val cur path (.expr e) ∈ wf.allSites) :
    ∀ p ∈ Expr.deps e, ∃ a, wf.resolve po p = .ok a ∧ (a.render, cur.render, Dep.and) ∈ g.edges := by
  intro p hp
  obtain ⟨a, ha, _, _⟩ := prepare_refs_exist po wf g items h _ hσ e (by simp [Site.exprs]) p hp
  exact ⟨a, ha, site_edge_built (prepare_built h) hσ (x := (a, cur, .and)) (mem_refEdges.2 ⟨p, hp, a, ha, rfl⟩)⟩

/-- Two references of one expression that lead to the SAME producer node (two fields of one stage output) do not stop
the walk: a third reference to another producer is connected as well.  (Two instances of `prepare_every_ref_connected`;
`p₂` and its hypotheses only describe the situation and are not used.) -/
theorem prepare_duplicate_ref_does_not_stop (po : List String) (wf : Wf) (g : Graph String) (items : List (String × Item))
    (h : prepare po wf = .ok (g, items)) (cur : NodeId) (path : List String) (e : Expr)
    (hσ : Site.val cur path (.expr e) ∈ wf.allSites) (p₁ p₂ p₃ : List String) (a b : NodeId)
    (h₁ : p₁ ∈ Expr.deps e) (_h₂ : p₂ ∈ Expr.deps e) (h₃ : p₃ ∈ Expr.deps e)
    (r₁ : wf.resolve po p₁ = .ok a) (_r₂ : wf.resolve po p₂ = .ok a) (r₃ : wf.resolve po p₃ = .ok b) :
    (a.render, cur.render, Dep.and) ∈ g.edges ∧ (b.render, cur.render, Dep.and) ∈ g.edges := by
  obtain ⟨a', ha', e1⟩ := prepare_every_ref_connected po wf g items h cur path e hσ p₁ h₁
  obtain ⟨b', hb', e3⟩ := prepare_every_ref_connected po wf g items h cur path e hσ p₃ h₃
  cases r₁.symm.trans ha'
  cases r₃.symm.trans hb'
  exact ⟨e1, e3⟩

/-- An optional field (`!wait-optional` / `!soft-optional`) hangs off its OWN group node: the holder depends on the group
with the kind the tag requires (completion-and / optional) and the group requires every source of the expression. -/
theorem prepare_optional_edges (po : List String) (wf : Wf) (g : Graph String) (items : List (String × Item))
    (h : prepare po wf = .ok (g, items)) (cur : NodeId) (path : List String) (w : Bool) (e : Expr)
    (hσ : Site.val cur path (.optional w e) ∈ wf.allSites) :
    ((NodeId.group cur path).render, cur.render, optDep w) ∈ g.edges ∧
    ∀ p ∈ Expr.deps e, ∃ a, wf.resolve po p = .ok a ∧ (a.render, (NodeId.group cur path).render, Dep.and) ∈ g.edges := by
  refine ⟨site_edge_built (prepare_built h) hσ (x := (.group cur path, cur, optDep w)) (by simp [siteEdges]), ?_⟩
  intro p hp
  obtain ⟨a, ha, _, _⟩ := prepare_refs_exist po wf g items h _ hσ e (by simp [Site.exprs]) p hp
  exact ⟨a, ha, site_edge_built (prepare_built h) hσ (x := (a, .group cur path, .and))
    (List.mem_cons_of_mem _ (mem_refEdges.2 ⟨p, hp, a, ha, rfl⟩))⟩

/-- Several tagged fields of ONE object (different paths below the same holder) - on the same source or not - get
DISTINCT group nodes, also as Go string ids, and both are nodes of the graph. -/
theorem prepare_tagged_fields_distinct_groups (po : List String) (wf : Wf) (g : Graph String) (items : List (String × Item))
    (h : prepare po wf = .ok (g, items)) (cur : NodeId) (p₁ p₂ : List String) (w₁ w₂ : Bool) (e₁ e₂ : Expr)
    (h₁ : Site.val cur p₁ (.optional w₁ e₁) ∈ wf.allSites) (h₂ : Site.val cur p₂ (.optional w₂ e₂) ∈ wf.allSites)
    (hne : p₁ ≠ p₂) :
    (NodeId.group cur p₁).render ≠ (NodeId.group cur p₂).render ∧
    g.has (NodeId.group cur p₁).render = true ∧ g.has (NodeId.group cur p₂).render = true := by
  have hB := prepare_built h
  have n₁ : Op.node (.group cur p₁) ∈ wf.ops po := site_mem_ops h₁ (by simp [siteOps])
  have n₂ : Op.node (.group cur p₂) ∈ wf.ops po := site_mem_ops h₂ (by simp [siteOps])
  refine ⟨fun heq => hne ?_, hB.has_node n₁, hB.has_node n₂⟩
  cases hB.render_inj n₁ n₂ heq
  rfl

/-- A `!wait-optional` and a `!soft-optional` field of one object that read the same source: the holder has a
completion-and dependency on one group and an optional dependency on ANOTHER group, and each group requires the source.
(One edge per node pair: a direct holder <- source edge could carry only one of the two kinds.) -/
theorem prepare_wait_and_soft_on_same_source (po : List String) (wf : Wf) (g : Graph String) (items : List (String × Item))
    (h : prepare po wf = .ok (g, items)) (cur : NodeId) (pw ps : List String) (ew es : Expr)
    (hw : Site.val cur pw (.optional true ew) ∈ wf.allSites) (hs : Site.val cur ps (.optional false es) ∈ wf.allSites)
    (hne : pw ≠ ps) (p q : List String) (hp : p ∈ Expr.deps ew) (hq : q ∈ Expr.deps es) (src : NodeId)
    (rp : wf.resolve po p = .ok src) (rq : wf.resolve po q = .ok src) :
    (NodeId.group cur pw).render ≠ (NodeId.group cur ps).render ∧
    ((NodeId.group cur pw).render, cur.render, Dep.cand) ∈ g.edges ∧
    ((NodeId.group cur ps).render, cur.render, Dep.opt) ∈ g.edges ∧
    (src.render, (NodeId.group cur pw).render, Dep.and) ∈ g.edges ∧
    (src.render, (NodeId.group cur ps).render, Dep.and) ∈ g.edges := by
  obtain ⟨e1, r1⟩ := prepare_optional_edges po wf g items h cur pw true ew hw
  obtain ⟨e2, r2⟩ := prepare_optional_edges po wf g items h cur ps false es hs
  obtain ⟨a, ha, ea⟩ := r1 p hp
  obtain ⟨b, hb, eb⟩ := r2 q hq
  cases rp.symm.trans ha
  cases rq.symm.trans hb
  exact ⟨(prepare_tagged_fields_distinct_groups po wf g items h cur pw ps true false ew es hw hs hne).1, e1, e2, ea, eb⟩

def po : List String := ["alt", "cancelled", "error", "success"]

def ref (s : String) (rest : List String) : Expr := rest.foldl Expr.dot (.dot (.dot .root "steps") s)

/-- two plugin steps; `b` takes an optional (`!wait-optional`) input from `a`; the output is a `!oneof` over `b` -/
def demo : Wf :=
  { inputFields := ["name"]
    steps := [ { id := "a", kind := .plugin, fields := [("input", .map [("s", .expr (.dot (.dot .root "input") "name"))])] },
               { id := "b", kind := .plugin,
                 fields := [("input", .map [("s", .optional true (ref "a" ["outputs", "success", "s"]))])] } ]
    outputs := [("success", .map [("r", .oneof "which"
        [("ok", .map [("v", .expr (ref "b" ["outputs", "success", "s"]))]),
         ("bad", .map [("v", .expr (ref "b" ["outputs", "error", "reason"]))])])])] }

/-- the same with a back-edge: `a` now waits for `b` -/
def demoCyclic : Wf :=
  { demo with steps := [ { id := "a", kind := .plugin,
                           fields := [("input", .map [("s", .expr (ref "b" ["outputs", "success", "s"]))])] },
                         { id := "b", kind := .plugin,
                           fields := [("input", .map [("s", .optional true (ref "a" ["outputs", "success", "s"]))])] } ] }

/-- a reference to a step that does not exist -/
def demoDangling : Wf :=
  { demo with outputs := [("success", .map [("r", .expr (ref "ghost" ["outputs", "success", "s"]))])] }

/-- the output is the whole data root -/
def demoRootRef : Wf :=
  { demo with outputs := [("success", .map [("r", .expr .root)])] }

def verdictOf (r : Except Reject (Graph String × List (String × Item))) : String :=
  match r with
  | .ok (g, _) => "accepted:" ++ toString g.nodes.length ++ ":" ++ toString g.edges.length
  | .error e => "rejected:" ++ e.cls

/-- `verdictOf` asks for the sizes only; those are computed on numeric ids (`prepare_sizes_code`) -/
theorem verdictOf_prepare (po : List String) (wf : Wf) :
    verdictOf (prepare po wf) = match sizesA (fun n => Arca.Proofs.SkelUtil.code n.render) (wf.ops po) with
      | .ok (n, e) => "accepted:" ++ toString n ++ ":" ++ toString e
      | .error e => "rejected:" ++ e.cls := by
  rw [← prepare_sizes_code]
  cases prepare po wf <;> rfl

example : verdictOf (prepare po demo) = "accepted:46:62" := by rw [verdictOf_prepare]; decide +kernel
example : verdictOf (prepare po demoCyclic) = "rejected:cycle" := by rw [verdictOf_prepare]; decide +kernel
example : verdictOf (prepare po demoDangling) = "rejected:dangling" := by rw [verdictOf_prepare]; decide +kernel
example : verdictOf (prepare po demoRootRef) = "rejected:dangling" := by rw [verdictOf_prepare]; decide +kernel

/-- the optional input of `b` hangs off a group node with a completion-and edge; the group requires `a`'s output -/
example : ("steps.b.starting.s", "steps.b.starting", Dep.cand) ∈ impliedEdges po demo
    ∧ ("steps.a.outputs.success", "steps.b.starting.s", Dep.and) ∈ impliedEdges po demo
    ∧ ("outputs.success.r.ok", "outputs.success.r", Dep.or) ∈ impliedEdges po demo := by decide +kernel

/-! A binary operation `l op r` of the expression language is the call `op(l, r)` of the model (`Expr.deps` of a call = the
dependencies of its arguments, left to right, as `binaryOperationDependencies` computes them). -/

def plus (l r : Expr) : Expr := .call "+" [l, r]

/-- `$.steps.a.outputs.success.s + boolToString($.steps.a.outputs.success.b) + $.steps.b.outputs.success.s`:
two paths into `a`'s output (one DAG node), then `b` -/
def abExpr : Expr :=
  plus (plus (ref "a" ["outputs", "success", "s"]) (.call "boolToString" [ref "a" ["outputs", "success", "b"]]))
    (ref "b" ["outputs", "success", "s"])

example : Expr.deps abExpr = [["steps", "a", "outputs", "success", "s"], ["steps", "a", "outputs", "success", "b"],
    ["steps", "b", "outputs", "success", "s"]] := by decide

/-- three plugin steps and two loop steps over different sub-workflow files (the file is not part of the graph);
`c` reads `a` in one input key and `a + a + b` in another; the output holds a `!wait-optional`, a `!soft-optional` and a
plain reference to `a`, a two-source optional and the data of both loops -/
def demoMulti : Wf :=
  { inputFields := ["name"]
    steps := [ { id := "a", kind := .plugin, fields := [("input", .map [("s", .expr (.dot (.dot .root "input") "name"))])] },
               { id := "b", kind := .plugin, fields := [("input", .map [])] },
               { id := "c", kind := .plugin,
                 fields := [("input", .map [("i", .expr (ref "a" ["outputs", "success", "i"])), ("s", .expr abExpr)]),
                            ("wait_for", .list [.expr (ref "a" ["outputs", "success", "s"]),
                                                .expr (plus (ref "a" ["outputs", "success", "s"]) (ref "b" ["outputs", "success", "s"]))])] },
               { id := "la", kind := .foreach,
                 fields := [("items", .list [.map [("name", .expr (ref "a" ["outputs", "success", "s"]))]])] },
               { id := "lb", kind := .foreach,
                 fields := [("items", .list [.map [("name", .lit "x"), ("n", .expr (ref "b" ["outputs", "success", "i"]))]])] } ]
    outputs := [("success", .map [
        ("xw", .optional true (ref "a" ["outputs", "success", "s"])),
        ("xo", .optional false (ref "a" ["outputs", "success", "i"])),
        ("xp", .expr (ref "a" ["outputs", "success", "b"])),
        ("mo", .optional true abExpr),
        ("loop0", .expr (ref "la" ["outputs", "success", "data"])),
        ("loop1", .optional true (ref "lb" ["outputs", "success", "data"]))])] }

/-- the same with the back-edge hidden behind an already connected producer: `a` reads `b` and then `c` -/
def demoHiddenCycle : Wf :=
  { demoMulti with steps := demoMulti.steps.map (fun s =>
      if s.id = "a" then { s with fields := [("input", .map [("l", .list [
          .expr (ref "b" ["outputs", "success", "s"]),
          .expr (plus (ref "b" ["outputs", "success", "s"]) (ref "c" ["outputs", "success", "s"]))])])] } else s) }

example : verdictOf (prepare po demoMulti) = "accepted:88:119" := by rw [verdictOf_prepare]; decide +kernel
example : verdictOf (prepare po demoHiddenCycle) = "rejected:cycle" := by rw [verdictOf_prepare]; decide +kernel

/-- `c` is connected to `b` although its other input key (and the earlier references of the same expression) had
already connected it to `a`; so is its wait_for list; the two-source optional group requires both sources -/
example : ("steps.a.outputs.success", "steps.c.starting", Dep.and) ∈ impliedEdges po demoMulti
    ∧ ("steps.b.outputs.success", "steps.c.starting", Dep.and) ∈ impliedEdges po demoMulti
    ∧ ("steps.a.outputs.success", "outputs.success.mo", Dep.and) ∈ impliedEdges po demoMulti
    ∧ ("steps.b.outputs.success", "outputs.success.mo", Dep.and) ∈ impliedEdges po demoMulti := by decide +kernel

/-- wait-optional, soft-optional and plain reference to the same source in one object: two group nodes with their own
edge kinds plus the direct `and` edge of the plain reference -/
example : ("outputs.success.xw", "outputs.success", Dep.cand) ∈ impliedEdges po demoMulti
    ∧ ("outputs.success.xo", "outputs.success", Dep.opt) ∈ impliedEdges po demoMulti
    ∧ ("steps.a.outputs.success", "outputs.success.xw", Dep.and) ∈ impliedEdges po demoMulti
    ∧ ("steps.a.outputs.success", "outputs.success.xo", Dep.and) ∈ impliedEdges po demoMulti
    ∧ ("steps.a.outputs.success", "outputs.success", Dep.and) ∈ impliedEdges po demoMulti := by decide +kernel

/-- without the plain reference the holder has NO direct edge from the source, of any kind -/
def demoMixedOnly : Wf :=
  { demoMulti with outputs := [("success", .map [
        ("xw", .optional true (ref "a" ["outputs", "success", "s"])),
        ("xo", .optional false (ref "a" ["outputs", "success", "i"]))])] }

example : ∀ d : Dep, ("steps.a.outputs.success", "outputs.success", d) ∉ impliedEdges po demoMixedOnly
      ∧ ("steps.a.outputs.success", "outputs.success", d) ∉ lifecycleEdges demoMixedOnly
      ∧ ("steps.a.outputs.success", "outputs.success", d) ∉ stageOutEdges po demoMixedOnly := by
  -- one pass over the three lists: no edge of any type between the two ids
  have h : ∀ l ∈ [impliedEdges po demoMixedOnly, lifecycleEdges demoMixedOnly, stageOutEdges po demoMixedOnly],
      ∀ e ∈ l, ¬ (e.1 = "steps.a.outputs.success" ∧ e.2.1 = "outputs.success") := by decide +kernel
  exact fun d => ⟨fun hm => h _ (by simp) _ hm ⟨rfl, rfl⟩, fun hm => h _ (by simp) _ hm ⟨rfl, rfl⟩,
    fun hm => h _ (by simp) _ hm ⟨rfl, rfl⟩⟩

/-- both loop steps feed the output; each loop's data comes from its own step -/
example : ("steps.la.outputs.success", "outputs.success", Dep.and) ∈ impliedEdges po demoMulti
    ∧ ("steps.lb.outputs.success", "outputs.success.loop1", Dep.and) ∈ impliedEdges po demoMulti
    ∧ ("steps.a.outputs.success", "steps.la.execute", Dep.and) ∈ impliedEdges po demoMulti
    ∧ ("steps.b.outputs.success", "steps.lb.execute", Dep.and) ∈ impliedEdges po demoMulti := by decide +kernel

end Arca.Props.C10
