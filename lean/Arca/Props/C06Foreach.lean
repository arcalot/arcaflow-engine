/-
C06 on loop steps — cancelling a run whose foreach step has MANY more items than `parallelism`: the bound of C06 does not
mention the number of items, so what is left to do after `foreach.Close` must not grow with the queue.  The statements are
those of Arca/Props/C13.lean (pool model of `executeSubWorkflows`), listed here as obligations of C06.  Trusted: that a
goroutine PARKED in the select of a queued item is woken on its `<-r.ctx.Done()` arm when the context is cancelled (Go
runtime, DESIGN.md 15.9); the monitor `mon_c06_foreach` (lib/props_c13.py) checks on cancelled runs of the real engine that
no queued item begins after the cancel and that the return bound holds with 60..200 queued items.
-/
import Arca.Props.C13

namespace Arca.Props.C06
open Arca.Model.ForeachPool

variable {α β : Type}

/-- a queued item waits for a slot or for the close, nothing else — and it does watch the close -/
theorem queued_items_watch_the_close :
    Arca.Gen.Skel.step_foreach_provider_runningStep_executeSubWorkflows.filter
        (fun t => Arca.Model.Skel.startsWith "comm(" t || Arca.Model.Skel.startsWith "select" t) =
      ["select{", "comm(sem <- struct{}{}):", "comm(<-r.ctx.Done()):"] :=
  Arca.Props.C13.queued_items_wait_for_slot_or_close_only.1

/-- once the close has reached the queued items, no item run begins any more (`h₁` is not used: any `s₁` with nothing
    pending will do; it keeps the shape of `foreach_close_work_bounded`) -/
theorem foreach_close_starts_nothing (P : Pool α β) (sched rest : List Tr) (s₁ s₂ : PoolState α β)
    (h₁ : runSched P (init P) sched = some s₁) (hq : pendingCount s₁ = 0)
    (h₂ : runSched P s₁ rest = some s₂) : ∀ i, Tr.acquire i ∉ rest :=
  Arca.Props.C13.close_parked_no_new_start P sched rest s₁ s₂ h₁ hq h₂

/-- ... and the work left after the close is bounded by `parallelism`, whatever the number of items -/
theorem foreach_close_work_bounded (P : Pool α β) (sched rest : List Tr) (s₁ s₂ : PoolState α β)
    (h₁ : runSched P (init P) sched = some s₁) (hc : s₁.cancelled = true) (hq : pendingCount s₁ = 0)
    (h₂ : runSched P s₁ rest = some s₂) : rest.length ≤ running s₁ ∧ running s₁ ≤ P.p :=
  Arca.Props.C13.close_parked_work_bounded_by_parallelism P sched rest s₁ s₂ h₁ hc hq h₂

/-- parallelism 1: at most one transition is left, whatever the number of items -/
example : ∀ (P : Pool Nat Nat) (sched rest : List Tr) (s₁ s₂ : PoolState Nat Nat), P.p = 1 →
    runSched P (init P) sched = some s₁ → s₁.cancelled = true → pendingCount s₁ = 0 →
    runSched P s₁ rest = some s₂ → rest.length ≤ 1 := by
  intro P sched rest s₁ s₂ hp h₁ hc hq h₂
  have := foreach_close_work_bounded P sched rest s₁ s₂ h₁ hc hq h₂
  omega

end Arca.Props.C06
