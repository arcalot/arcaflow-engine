/-
C16 — preparation is insensitive to ordering and naming.

Determinism ("preparing the same text repeatedly gives the same result") holds for the model by construction: `prepare`
is a function.  What the theorems add is that the *result does not depend on the order* in which steps and outputs are
listed (Go iterates maps in random order), and that consistently renaming steps only renames the graph.

Proved in full: reordering steps and outputs gives the same verdict (`prepare_step_perm_verdict`) and, when accepted,
the same nodes and the same typed edges (`prepare_step_perm`); the operation sequence of a reordered workflow is a
permutation of the original one; the operation sequence of a renamed workflow is the renamed operation sequence, and
if both are accepted the renamed graph has the ρ-images of the node ids and of the declared edges of the original.
Not proved (`_partial` below): that renaming preserves *acceptance* (needs the id alphabet of the workflow schema: no
`.` in step ids); see the statement for what exactly is missing.
-/
import Arca.Proofs.PreparePerm
import Arca.Proofs.PrepareRename
import Arca.Proofs.PrepareOrder

namespace Arca.Props.C16
open Arca.Model

/-- Reordering steps and outputs: the same operations are performed, in another order. -/
theorem prepare_step_perm_ops (po : List String) (wf wf' : Wf) (h : wf.Reordered wf')
    (g : Graph String) (items : List (String × Item)) (hacc : prepare po wf = .ok (g, items)) :
    (wf.ops po).Perm (wf'.ops po) :=
  ops_perm h (steps_id_inj (prepare_built hacc))

/-- Two accepted workflows that perform the same operations, in whatever order, have the same node set and the same
(typed) edge set: the two node-id lists and the two edge lists are permutations of each other. -/
theorem prepare_ops_perm_same_graph (po : List String) (wf wf' : Wf) (hperm : (wf.ops po).Perm (wf'.ops po))
    (g g' : Graph String) (items items' : List (String × Item))
    (h1 : prepare po wf = .ok (g, items)) (h2 : prepare po wf' = .ok (g', items')) :
    (g.nodes.map (·.id)).Perm (g'.nodes.map (·.id)) ∧ g.edges.Perm g'.edges ∧ (∀ e, e ∈ g.edges ↔ e ∈ g'.edges) :=
  have ⟨hn, he, _⟩ := built_perm hperm (prepare_built h1) (prepare_built h2)
  ⟨hn, he, fun _ => he.mem_iff⟩

/-- Reordering steps and outputs changes neither the node set nor the (typed) edge set of an accepted workflow:
the two node-id lists and the two edge lists are permutations of each other. -/
theorem prepare_step_perm (po : List String) (wf wf' : Wf) (h : wf.Reordered wf')
    (g g' : Graph String) (items items' : List (String × Item))
    (h1 : prepare po wf = .ok (g, items)) (h2 : prepare po wf' = .ok (g', items')) :
    (g.nodes.map (·.id)).Perm (g'.nodes.map (·.id)) ∧ g.edges.Perm g'.edges ∧
      (∀ id, id ∈ g.nodes.map (·.id) ↔ id ∈ g'.nodes.map (·.id)) ∧ (∀ e, e ∈ g.edges ↔ e ∈ g'.edges) :=
  have ⟨hn, he, hm⟩ :=
    prepare_ops_perm_same_graph po wf wf' (prepare_step_perm_ops po wf wf' h g items h1) g g' items items' h1 h2
  ⟨hn, he, fun _ => hn.mem_iff, hm⟩

/-- A reference that fails to resolve (or any other failure that is not a graph-operation error) rejects every
reordering of the workflow.  Distinct step ids (`hu`) are a hypothesis here, where the other theorems get them from
acceptance: `Wf.resolve` takes the first step with the id, so with a duplicated id a reordering can change what a
reference resolves to. -/
theorem prepare_step_perm_fail (po : List String) (wf wf' : Wf) (h : wf.Reordered wf') (hu : wf.UniqueIds)
    (hf : ∃ r, Op.fail r ∈ wf.ops po) : ∃ r', prepare po wf' = .error r' := by
  obtain ⟨r, hr⟩ := hf
  cases hp : prepare po wf' with
  | error r' => exact ⟨r', rfl⟩
  | ok gi => exact absurd ((ops_perm h hu).mem_iff.1 hr) ((prepare_built (g := gi.1) (items := gi.2) hp).nofail r)

/-- If the operation sequences of both orderings run through, the final cycle check gives the same answer
(`HasCycles` does not depend on the order of the node and edge lists). -/
theorem prepare_step_perm_cycle (po : List String) (wf wf' : Wf) (h : wf.Reordered wf')
    (g g' : Graph String) (hb : build po wf = .ok g) (hb' : build po wf' = .ok g') :
    g.hasCycles = g'.hasCycles :=
  (built_perm (ops_perm h (steps_id_inj (build_built hb)))
    (build_built hb) (build_built hb')).2.2

/-- Reordering steps and outputs never changes the verdict: the reordered workflow is accepted iff the original is.
(Every graph-operation error — id collision, self connection, duplicate strict connection — and every reference
failure occurs in one ordering iff it occurs in the other: `build_reordered`; the cycle check: `prepare_step_perm_cycle`.) -/
theorem prepare_step_perm_verdict (po : List String) (wf wf' : Wf) (h : wf.Reordered wf') :
    (∃ r, prepare po wf = .ok r) ↔ (∃ r', prepare po wf' = .ok r') := by
  have key : ∀ (w w' : Wf), w.Reordered w' → (∃ r, prepare po w = .ok r) → ∃ r', prepare po w' = .ok r' := by
    rintro w w' hw ⟨⟨g, items⟩, hp⟩
    obtain ⟨hb, hc, _⟩ := prepare_ok hp
    obtain ⟨g', hb'⟩ := build_reordered hw hb
    have hc' : g'.hasCycles = false := prepare_step_perm_cycle po w w' hw g g' hb hb' ▸ hc
    exact ⟨(g', w'.items po), by simp [prepare, hb', hc']⟩
  exact ⟨key wf wf' h, key wf' wf h.symm⟩

/-- Consistently renaming steps (ids and the step segment of every reference) by an injective map: exactly the renamed
operations are performed, in the same order. -/
theorem prepare_rename_ops (ρ : String → String) (hρ : ∀ a b, ρ a = ρ b → a = b) (po : List String) (wf : Wf) :
    (wf.rename ρ).ops po = (wf.ops po).map (Op.rename ρ) :=
  ops_rename hρ po wf

/-- ... hence, if both are accepted, the node ids of the two graphs are the renderings of the same structured node list
and their edges the renderings of the same declared edge set, one through `render`, the other through
`render ∘ rename ρ`.  (The first and third conjunct are `C10.prepare_nodes_exact` and `C10.prepare_edges_sound_complete`
for `g`, restated so that the two graphs can be read side by side.) -/
theorem prepare_rename (ρ : String → String) (hρ : ∀ a b, ρ a = ρ b → a = b) (po : List String) (wf : Wf)
    (g g' : Graph String) (items items' : List (String × Item))
    (h1 : prepare po wf = .ok (g, items)) (h2 : prepare po (wf.rename ρ) = .ok (g', items')) :
    g.nodes.map (·.id) = (nodeIds (wf.ops po)).map NodeId.render ∧
    g'.nodes.map (·.id) = (nodeIds (wf.ops po)).map (fun n => (n.rename ρ).render) ∧
    (∀ e, e ∈ g.edges ↔ ∃ x ∈ wf.declaredS po, e = renderEdge x) ∧
    (∀ e', e' ∈ g'.edges ↔ ∃ x ∈ wf.declaredS po, e' = renderEdge (Edge.rename ρ x)) := by
  have hB := prepare_built h1
  have hB' := prepare_built h2
  have hops := ops_rename hρ po wf
  refine ⟨hB.ids, ?_, fun e => edges_iff_declared hB, fun e' => ?_⟩
  · rw [hB'.ids, hops, ridsOf, nodeIds_map_rename, List.map_map]
    rfl
  · simp only [edges_iff_ops hB', hops, edge_mem_map_rename]
    constructor
    · rintro ⟨_, _, d, tol, ⟨a, b, hop, rfl, rfl⟩, rfl⟩
      exact ⟨(a, b, d), (declared_iff_ops hB.nofail).2 ⟨tol, hop⟩, rfl⟩
    · rintro ⟨⟨a, b, d⟩, hx, rfl⟩
      obtain ⟨tol, hop⟩ := (declared_iff_ops hB.nofail).1 hx
      exact ⟨_, _, d, tol, ⟨a, b, hop, rfl, rfl⟩, rfl⟩

/-- Verdict under renaming, partial: a failure that is not a graph-operation error (dangling / invalid reference,
`$`, bad `!ordisabled`, empty `!oneof`) occurs in the renamed workflow iff it occurs in the original.
Missing for "`prepare (ρ wf)` is accepted iff `prepare wf` is": that collisions of *rendered* ids are invariant under
renaming, which needs the id alphabet the workflow schema enforces (no `.` in step ids) — a statement about strings
that is validated by the differential (renamed copies of every accepted workflow) but not proved. -/
theorem prepare_rename_fail_partial (ρ : String → String) (hρ : ∀ a b, ρ a = ρ b → a = b) (po : List String) (wf : Wf) :
    (∃ r, Op.fail r ∈ wf.ops po) ↔ (∃ r, Op.fail r ∈ (wf.rename ρ).ops po) := by
  simp only [ops_rename hρ po wf, fail_mem_map_rename]

/-! ### the order in which the keys of an object (and the options of a `!oneof`) are visited

Go walks every object of a stage input / workflow output with `reflect.MapKeys` (random order).  The operations performed
for an object are the concatenation of the operations of its entries, so another key order performs the same operations
in another order (`object_key_order_ops`, for an object at ANY position: a step's input map, a nested map, an option of a
`!oneof`, a workflow output); every `ConnectDependency` of a reference is idempotent (tolerated duplicate) and no
operation of one entry can make an operation of a sibling entry fail or be skipped.  For the object of a workflow output
the statement is lifted to the whole workflow: same operations, hence (both accepted) the same nodes and typed edges.
Not proved: that acceptance itself is invariant under key order (validated by the differential: permuted renderings of
every accepted workflow, 4 preparations of every text). -/

theorem object_key_order_ops (R : Resolver) (cur : NodeId) (path : List String) {kvs kvs' : List (String × AIn)}
    (h : kvs.Perm kvs') : (opsIn R cur path (.map kvs)).Perm (opsIn R cur path (.map kvs')) := by
  simp only [opsIn, opsKvs_flatMap]
  exact h.flatMap_right _

theorem oneof_option_order_ops (R : Resolver) (cur : NodeId) (path : List String) (d : String)
    {opts opts' : List (String × AIn)} (h : opts.Perm opts') :
    (opsIn R cur path (.oneof d opts)).Perm (opsIn R cur path (.oneof d opts')) := by
  simp only [opsIn, opsOpts_flatMap, h.isEmpty_eq]
  split
  · exact List.Perm.refl _
  · exact (h.flatMap_right _).append_left _

/-- `wf` with the keys of the object of output `x` listed in another order -/
def withOutputKeys (wf : Wf) (pre post : List (String × AIn)) (x : String) (kvs : List (String × AIn)) : Wf :=
  { wf with outputs := pre ++ (x, .map kvs) :: post }

theorem output_key_order_ops (po : List String) (wf : Wf) (pre post : List (String × AIn)) (x : String)
    {kvs kvs' : List (String × AIn)} (h : kvs.Perm kvs') :
    ((withOutputKeys wf pre post x kvs).ops po).Perm ((withOutputKeys wf pre post x kvs').ops po) := by
  have hres : (withOutputKeys wf pre post x kvs).resolve po = (withOutputKeys wf pre post x kvs').resolve po := rfl
  have e : ∀ k : List (String × AIn), (pre ++ (x, AIn.map k) :: post).isEmpty = false := by
    intro k
    cases pre <;> rfl
  unfold Wf.ops
  rw [hres]
  simp only [withOutputKeys, e, List.flatMap_append, List.flatMap_cons, outputOps]
  refine List.Perm.append_left _ (List.Perm.append_left _ ?_)
  exact List.Perm.cons _ (List.Perm.append_right _ (object_key_order_ops _ _ _ h))

/-- Listing the keys of the object of a workflow output in another order changes neither the node set nor the typed
edge set of an accepted workflow. -/
theorem prepare_output_key_order (po : List String) (wf : Wf) (pre post : List (String × AIn)) (x : String)
    {kvs kvs' : List (String × AIn)} (h : kvs.Perm kvs') (g g' : Graph String) (items items' : List (String × Item))
    (h1 : prepare po (withOutputKeys wf pre post x kvs) = .ok (g, items))
    (h2 : prepare po (withOutputKeys wf pre post x kvs') = .ok (g', items')) :
    (g.nodes.map (·.id)).Perm (g'.nodes.map (·.id)) ∧ g.edges.Perm g'.edges ∧ (∀ e, e ∈ g.edges ↔ e ∈ g'.edges) :=
  prepare_ops_perm_same_graph po _ _ (output_key_order_ops po wf pre post x h) g g' items items' h1 h2

def po : List String := ["alt", "cancelled", "error", "success"]

def ref (s : String) (rest : List String) : Expr := rest.foldl Expr.dot (.dot (.dot .root "steps") s)

def demo : Wf :=
  { inputFields := ["name"]
    steps := [ { id := "a", kind := .plugin, fields := [("input", .map [("s", .expr (.dot (.dot .root "input") "name"))])] },
               { id := "b", kind := .plugin,
                 fields := [("input", .map [("s", .optional true (ref "a" ["outputs", "success", "s"]))])] } ]
    outputs := [("success", .map [("r", .oneof "which"
        [("ok", .map [("v", .expr (ref "b" ["outputs", "success", "s"]))]),
         ("bad", .map [("v", .expr (ref "b" ["outputs", "error", "reason"]))])])]),
                ("failure", .map [("e", .expr (ref "a" ["crashed", "error"]))])] }

def demoSwapped : Wf := { demo with steps := demo.steps.reverse, outputs := demo.outputs.reverse }

example : demo.Reordered demoSwapped :=
  ⟨rfl, (List.reverse_perm _).symm, (List.reverse_perm _).symm⟩

def sizeOf' (r : Except Reject (Graph String × List (String × Item))) : Nat × Nat :=
  match r with
  | .ok (g, _) => (g.nodes.length, g.edges.length)
  | .error _ => (0, 0)

/-- `sizeOf'` asks for the sizes only; those are computed on numeric ids (`prepare_sizes_code`) -/
theorem sizeOf'_prepare (po : List String) (wf : Wf) :
    sizeOf' (prepare po wf) = match sizesA (fun n => Arca.Proofs.SkelUtil.code n.render) (wf.ops po) with
      | .ok s => s
      | .error _ => (0, 0) := by
  rw [← prepare_sizes_code]
  cases prepare po wf <;> rfl

example : sizeOf' (prepare po demo) = (47, 63) ∧ sizeOf' (prepare po demoSwapped) = (47, 63) := by
  rw [sizeOf'_prepare, sizeOf'_prepare]; decide +kernel

def swapAB (s : String) : String := if s = "a" then "x1" else if s = "b" then "x2" else s

/-- the renamed workflow is accepted as well, and refers to the renamed steps -/
example : sizeOf' (prepare po (demo.rename swapAB)) = (47, 63)
    ∧ ("steps.x1.outputs.success", "steps.x2.starting.s", Dep.and) ∈ impliedEdges po (demo.rename swapAB) := by
  rw [sizeOf'_prepare]; decide +kernel

def plus (l r : Expr) : Expr := .call "+" [l, r]

def abExpr : Expr :=
  plus (plus (ref "a" ["outputs", "success", "s"]) (.call "boolToString" [ref "a" ["outputs", "success", "b"]]))
    (ref "b" ["outputs", "success", "s"])

def multiKvs : List (String × AIn) :=
  [("xw", .optional true (ref "a" ["outputs", "success", "s"])),
   ("xo", .optional false (ref "a" ["outputs", "success", "i"])),
   ("m0", .expr (ref "a" ["outputs", "success", "s"])),
   ("m1", .expr abExpr),
   ("loop0", .expr (ref "la" ["outputs", "success", "data"])),
   ("loop1", .expr (ref "lb" ["outputs", "success", "data"]))]

/-- two plugin steps, two loop steps (different sub-workflow files are not part of the graph), an output object with a
`!wait-optional`, a `!soft-optional` and a plain reference to the same source, a three-reference expression whose
first producer is already connected, and the data of both loops -/
def demoMulti : Wf :=
  { inputFields := ["name"]
    steps := [ { id := "a", kind := .plugin, fields := [("input", .map [])] },
               { id := "b", kind := .plugin, fields := [("input", .map [("s", .expr (ref "a" ["outputs", "success", "s"]))])] },
               { id := "la", kind := .foreach,
                 fields := [("items", .list [.map [("name", .expr (ref "a" ["outputs", "success", "s"]))]])] },
               { id := "lb", kind := .foreach,
                 fields := [("items", .list [.map [("name", .lit "x"), ("n", .expr (ref "b" ["outputs", "success", "i"]))]])] } ]
    outputs := [("success", .map multiKvs)] }

example : demoMulti = withOutputKeys demoMulti [] [] "success" multiKvs := rfl

/-- the same text with the keys of the output object in reverse order and the steps in reverse order -/
def demoMultiSwapped : Wf :=
  { withOutputKeys demoMulti [] [] "success" multiKvs.reverse with steps := demoMulti.steps.reverse }

example : sizeOf' (prepare po demoMulti) = (66, 87) ∧ sizeOf' (prepare po demoMultiSwapped) = (66, 87) := by
  rw [sizeOf'_prepare, sizeOf'_prepare]; decide +kernel

/-- whichever key is visited first, `b` is connected to the output, and both tagged fields keep their own group -/
example : ("steps.b.outputs.success", "outputs.success", Dep.and) ∈ impliedEdges po demoMultiSwapped
    ∧ ("outputs.success.xw", "outputs.success", Dep.cand) ∈ impliedEdges po demoMultiSwapped
    ∧ ("outputs.success.xo", "outputs.success", Dep.opt) ∈ impliedEdges po demoMultiSwapped
    ∧ ("steps.lb.outputs.success", "outputs.success", Dep.and) ∈ impliedEdges po demoMultiSwapped := by decide +kernel

end Arca.Props.C16
