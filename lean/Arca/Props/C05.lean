/-
C05 — nothing is left running or deployed after a run or a parse returns.

Proved here: ordering facts on the regenerated control skeletons of the functions that own the clean-up (they survive
harmless edits and break on the re-orderings that matter).  The wait-group discipline of the plugin provider is modelled
in C12; goroutine liveness and the deploy/close balance are only observed on runs of the real engine (DESIGN.md 15.4).
-/
import Arca.Proofs.SkelUtil
import Arca.Gen.Skel

namespace Arca.Props.C05
open Arca.Model.Skel Arca.Gen.Skel

/-- `Execute`: the deferred `terminateAllSteps` is registered after the loop that starts the steps and before the first
    blocking wait (`select`), so every exit path after the start loop closes every started step -/
theorem run_closes_all :
    adjacent (isTok "defer{") (isTok "call:l.terminateAllSteps()") workflow_workflow_executableWorkflow_Execute = true ∧
    firstBefore (startsWith "call:runnableStep.Start(") (isTok "call:l.terminateAllSteps()")
      workflow_workflow_executableWorkflow_Execute = true ∧
    firstBefore (isTok "call:l.terminateAllSteps()") (isTok "select{") workflow_workflow_executableWorkflow_Execute = true := by
  rw [Arca.Proofs.SkelUtil.startsWith_eq_bytes]
  decide +kernel

/-- `terminateAllSteps` force-closes every running step -/
theorem terminate_force_closes :
    has (isTok "range(l.runningSteps){") workflow_workflow_loopState_terminateAllSteps = true ∧
    has (isTok "call:runningStep.ForceClose()") workflow_workflow_loopState_terminateAllSteps = true := by
  decide +kernel

/-- plugin `ForceClose` / `Close` and foreach `Close` call `wg.Wait` twice each (repeated call, first call); in
    `ForceClose`, behind the five tokens of the `closedAlready` block (`.drop 5`), `forceClose()` comes before the first
    `return`.  NOT said, and not true of `ForceClose`: that every path waits — when `forceClose()` fails it returns
    (`if(err != nil){ return }`) without waiting. -/
theorem forceclose_waits :
    count (isTok "call:r.wg.Wait()") step_plugin_provider_runningStep_ForceClose = 2 ∧
    firstBefore (isTok "call:r.forceClose()") (isTok "return") (step_plugin_provider_runningStep_ForceClose.drop 5) = true ∧
    count (isTok "call:r.wg.Wait()") step_plugin_provider_runningStep_Close = 2 ∧
    count (isTok "call:r.wg.Wait()") step_foreach_provider_runningStep_Close = 2 := by
  decide +kernel

/-- plugin provider: the wait group is incremented BEFORE the goroutine is started, and in `run()` `cancel()` is directly
    followed by `wg.Done()` (the body of its first `defer`, so `Done` comes last; the statement says the adjacency only) -/
theorem plugin_run_registered_before_start :
    firstBefore (isTok "call:s.wg.Add(1)") (isTok "go{") step_plugin_provider_runnableStep_Start = true ∧
    adjacent (isTok "call:r.cancel()") (isTok "call:r.wg.Done()") step_plugin_provider_runningStep_run = true := by
  decide +kernel

/-- plugin `run()`: `startPlugin` comes before `postDeployment`, and `run()` has two `defer`s (the second closes the
    deployed container; that its body calls `Close` is not in the statement) -/
theorem plugin_run_closes_container :
    firstBefore (isTok "call:r.startPlugin()") (isTok "call:r.postDeployment(pluginConnection)")
      step_plugin_provider_runningStep_run = true ∧
    count (isTok "defer{") step_plugin_provider_runningStep_run = 2 := by
  decide +kernel

/-- the schema probe (`LoadSchema`) closes its temporary deployment on the success path and on both failure paths after
    a successful `Deploy` (three `Close` calls of the connector: ReadSchema failed, client shut-down failed, normal) -/
theorem probe_closes :
    firstBefore (isTok "call:applicableLocalDeployer.Deploy(ctx,pluginSource)") (isTok "call:pluginConnector.Close()")
      step_plugin_provider_pluginProvider_LoadSchema = true ∧
    count (isTok "call:pluginConnector.Close()") step_plugin_provider_pluginProvider_LoadSchema = 3 := by
  decide +kernel

/-- the foreach provider registers `run()` with the wait group BEFORE the goroutine is started, and not inside `run()`:
    `Add` inside `run()` would let a `Close` that wins the race return before `run()` has begun (F10e) -/
theorem foreach_run_registered_before_start :
    firstBefore (isTok "call:rs.wg.Add(1)") (isTok "go{") step_foreach_provider_runnableStep_Start = true ∧
    has (startsWith "call:r.wg.Add(") step_foreach_provider_runningStep_run = false := by
  rw [Arca.Proofs.SkelUtil.startsWith_eq_bytes]
  decide +kernel

end Arca.Props.C05
