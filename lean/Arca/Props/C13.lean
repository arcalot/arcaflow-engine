/-
C13 — a loop step returns per-item results in item order within its parallelism.

Everything is stated over the pool model of `executeSubWorkflows` + the output assembly of `processInput`
(Arca/Model/ForeachPool.lean) and quantifies over EVERY item list `P.xs` (any length, also empty), every parallelism
`P.p ≥ 1` (`parallelismSchema` is an `IntSchema` with minimum 1 and default 1; with 0 nothing could ever be acquired),
every per-item outcome `P.exec` and EVERY schedule (= interleaving of the item goroutines, including `cancel` = closing
the step at any point).  The model follows the code after fix 26900e2: an aborted item never touches the semaphore and is
recorded as an error of its index.

What is proved: the pool part of the property.  That `P.exec i a` (= `r.workflow.Execute(r.ctx, item)`) depends only on
the item (runs on a fresh run state and does not see the other items) is property C14 and is validated here by the
whole-engine runs of `vharness foreach`, not proved.
-/
import Arca.Proofs.ForeachProgress
import Arca.Proofs.ForeachAssemble
import Arca.Proofs.ForeachTimer
import Arca.Proofs.SkelUtil
import Arca.Model.SkelUtil
import Arca.Gen.Consts
import Arca.Gen.Skel

namespace Arca.Props.C13
open Arca.Model.ForeachPool

variable {α β : Type}

/-- In EVERY reachable state — also while the step is being closed — the number of items inside
    `Execute` equals the semaphore occupancy, which never exceeds `parallelism`: never more than `parallelism`
    sub-workflows run at a time. -/
theorem parallelism_bound (P : Pool α β) (sched : List Tr) (s : PoolState α β)
    (h : runSched P (init P) sched = some s) :
    running s = s.sem ∧ s.sem ≤ P.p ∧ running s ≤ P.p := by
  have hI := inv_reachable ⟨sched, h⟩
  exact ⟨hI.semRunning, hI.semLe, by rw [hI.semRunning]; exact hI.semLe⟩

/-- the bound for a state `s1` given as the end of a prefix `pre` of a schedule; the run of `pre ++ rest` is not used -/
theorem parallelism_bound_prefix (P : Pool α β) (pre rest : List Tr) (s1 s : PoolState α β)
    (h1 : runSched P (init P) pre = some s1) (_h : runSched P (init P) (pre ++ rest) = some s) : running s1 ≤ P.p :=
  (parallelism_bound P pre s1 h1).2.2

/-- Part 1 of `all_items_finish`: every schedule is finite — at most `2·n + 1` transitions can ever be taken
    (acquire + finish per item, one cancel). -/
theorem schedule_bounded (P : Pool α β) (sched : List Tr) (s : PoolState α β)
    (h : runSched P (init P) sched = some s) : sched.length ≤ 2 * P.n + 1 := by
  have := measure_runSched h
  simp [Arca.Model.ForeachPool.measure, init, pendingCount, running, List.countP_replicate, isPending, isRunning] at this
  omega

/-- Part 2 of `all_items_finish`: the pool never deadlocks.  In a reachable state in which no item goroutine can move
    (cancel is not an item move), `wg.Wait()` has returned: every maximal schedule ends with all items finished. -/
theorem maximal_schedule_complete (P : Pool α β) (hp : 1 ≤ P.p) (sched : List Tr) (s : PoolState α β)
    (h : runSched P (init P) sched = some s)
    (hmax : ∀ t s', t ≠ Tr.cancel → step P s t ≠ some s') : allDone s = true := by
  cases hd : allDone s
  · obtain ⟨t, s', hne, hs⟩ := progress hp (inv_reachable ⟨sched, h⟩) hd
    exact absurd hs (hmax t s' hne)
  · rfl

/-- Part 3: every reachable state can be completed — there is a continuation without cancellation after
    which all items are finished; if the context was alive it still is and every item went through `Execute`. -/
theorem all_items_finish (P : Pool α β) (hp : 1 ≤ P.p) (sched : List Tr) (s : PoolState α β)
    (h : runSched P (init P) sched = some s) :
    ∃ rest s', (∀ t ∈ rest, t ≠ Tr.cancel) ∧ runSched P (init P) (sched ++ rest) = some s' ∧ allDone s' = true ∧
      (s.cancelled = false → s'.cancelled = false ∧ allExecuted s' = true) := by
  have hI := inv_reachable ⟨sched, h⟩
  obtain ⟨rest, s', hnc, hrun, hd⟩ := exists_completion hp hI
  refine ⟨rest, s', hnc, by rw [runSched_append h]; exact hrun, hd, fun hc => ?_⟩
  have hc' := uncancelled_runSched hrun hc hnc
  exact ⟨hc', allExecuted_of_allDone (inv_runSched hI hrun) hc' hd⟩

/-- The assembled step output of a completed, uncancelled pool is the declarative `expected P`,
    a function of the items and their outcomes only: any two complete schedules give the same output. -/
theorem order_independent (P : Pool α β) (sched₁ sched₂ : List Tr) (s₁ s₂ : PoolState α β)
    (h₁ : runSched P (init P) sched₁ = some s₁) (c₁ : s₁.cancelled = false) (d₁ : allDone s₁ = true)
    (h₂ : runSched P (init P) sched₂ = some s₂) (c₂ : s₂.cancelled = false) (d₂ : allDone s₂ = true) :
    assemble s₁ = expected P ∧ assemble s₁ = assemble s₂ := by
  have e₁ := assemble_complete (inv_reachable ⟨sched₁, h₁⟩) c₁ d₁
  have e₂ := assemble_complete (inv_reachable ⟨sched₂, h₂⟩) c₂ d₂
  exact ⟨e₁, by rw [e₁, e₂]⟩

/-- If every item's sub-workflow run ends in `success` with data `vals i xᵢ`, then whatever the
    schedule (completion order) the step output is `outputs.success` whose `data` lists exactly those values in item
    order, one per item. -/
theorem loop_success_shape (P : Pool α β) (vals : Nat → α → β)
    (hok : ∀ i a, P.xs[i]? = some a → P.exec i a = .ok (vals i a))
    (sched : List Tr) (s : PoolState α β) (h : runSched P (init P) sched = some s)
    (hc : s.cancelled = false) (hd : allDone s = true) :
    assemble s = .success (P.xs.mapIdx (fun i a => some (vals i a))) ∧
      (P.xs.mapIdx (fun i a => some (vals i a))).length = P.xs.length := by
  refine ⟨?_, by simp⟩
  rw [assemble_complete (inv_reachable ⟨sched, h⟩) hc hd]
  have hall : P.outcomes.all ItemOutcome.isOk = true :=
    List.all_eq_true.mpr fun o ho => by
      obtain ⟨i, a, hx, rfl⟩ := mem_outcomes.mp ho
      rw [hok i a hx]; rfl
  have hmap : P.outcomes.map ItemOutcome.okVal = P.xs.mapIdx (fun i a => some (vals i a)) := by
    apply List.ext_getElem?
    intro i
    rw [List.getElem?_map, outcomes_getElem?, List.getElem?_mapIdx]
    cases hx : P.xs[i]? with
    | none => rfl
    | some a => simp [hok i a hx, ItemOutcome.okVal]
  simp [expected, expectedOf, hall, hmap]

/-- If some item fails (error return or an output other than `success`), then whatever the
    schedule the step output is `failed.error` whose `errors` map has exactly the failing indexes as keys (each with that
    item's message) and whose `data` map has exactly the other indexes as keys (each with that item's output); both maps
    have every key once (ascending), and every item index is in exactly one of them. -/
theorem loop_failure_exact (P : Pool α β)
    (hfail : ∃ i a, P.xs[i]? = some a ∧ (P.exec i a).isOk = false)
    (sched : List Tr) (s : PoolState α β) (h : runSched P (init P) sched = some s)
    (hc : s.cancelled = false) (hd : allDone s = true) :
    ∃ data errors, assemble s = .failure data errors ∧
      (∀ i m, (i, m) ∈ errors ↔ ∃ a, P.xs[i]? = some a ∧ (P.exec i a).failMsg = some m) ∧
      (∀ i v, (i, v) ∈ data ↔ ∃ a, P.xs[i]? = some a ∧ P.exec i a = .ok v) ∧
      errors.Pairwise (fun x y => x.1 < y.1) ∧ data.Pairwise (fun x y => x.1 < y.1) ∧
      (∀ i, i < P.xs.length → ((∃ m, (i, m) ∈ errors) ↔ ¬ ∃ v, (i, v) ∈ data)) := by
  have hall : P.outcomes.all ItemOutcome.isOk = false := by
    obtain ⟨i, a, hx, hno⟩ := hfail
    exact List.all_eq_false.mpr ⟨_, mem_outcomes.mpr ⟨i, a, hx, rfl⟩, by simp [hno]⟩
  have hf : expected P =
      .failure (indexed (P.outcomes.map ItemOutcome.okVal)) (indexed (P.outcomes.map ItemOutcome.failMsg)) := by
    simp [expected, expectedOf, hall]
  obtain ⟨hE, hD, hsE, hsD, hpart⟩ := expectedOf_failure_spec hf
  refine ⟨_, _, (assemble_complete (inv_reachable ⟨sched, h⟩) hc hd).trans hf, ?_, ?_, hsE, hsD, ?_⟩
  · intro i m
    rw [hE, outcomes_getElem?]
    cases P.xs[i]? <;> simp
  · intro i v
    rw [hD, outcomes_getElem?]
    cases P.xs[i]? <;> simp
  · intro i hi
    obtain ⟨hkey, hnot⟩ := hpart i
    rw [outcomes_length] at hkey
    exact ⟨fun hm hv => hnot ⟨hm, hv⟩, fun hv => (hkey.mp hi).resolve_right hv⟩

/-- Every `Execute` call ever made was given the item of its own index; no item is executed
    twice under any schedule, and in a completed uncancelled pool every item was executed exactly once. -/
theorem each_item_runs_once (P : Pool α β) (sched : List Tr) (s : PoolState α β)
    (h : runSched P (init P) sched = some s) :
    (∀ e ∈ s.started, P.xs[e.1]? = some e.2) ∧ (∀ i, execCount s i ≤ 1) ∧
      (s.cancelled = false → allDone s = true → ∀ i, i < P.xs.length → execCount s i = 1) := by
  have hR := runInv_runSched (runInv_init P) h
  have hI := inv_reachable ⟨sched, h⟩
  refine ⟨hR.ownInput, fun i => ?_, fun hc hd i hi => ?_⟩
  · rw [hR.once i]; split <;> omega
  · have hall := allExecuted_of_allDone hI hc hd
    have hph := allExecuted_phase hall (i := i) (by rw [hI.lenPhase]; exact hi)
    rw [hR.once i]; simp [hph]

/-- An item that leaves through the `ctx.Done()` arm (possible only once the context is
    cancelled) never touches the semaphore: occupancy and the number of running items are unchanged (its deferred function
    releases a slot only if `slotAcquired`), and the pool can still be completed. -/
theorem abort_release_harmless (P : Pool α β) (hp : 1 ≤ P.p) (sched : List Tr) (s s' : PoolState α β) (i : Nat)
    (h : runSched P (init P) sched = some s) (hs : step P s (.abort i) = some s') :
    s.cancelled = true ∧ s'.sem = s.sem ∧ running s' = running s ∧
      ∃ rest s'', runSched P s' rest = some s'' ∧ allDone s'' = true := by
  have hI := inv_reachable ⟨sched, h⟩
  have hI' := inv_step hI hs
  obtain ⟨rest, s'', _, hrun, hd⟩ := exists_completion hp hI'
  have hok : abortOk s i := enabled_of_step hs
  have hsem : s'.sem = s.sem := by rw [step, if_pos hok] at hs; cases hs; rfl
  refine ⟨hok.2, hsem, ?_, rest, s'', hrun, hd⟩
  rw [hI'.semRunning, hI.semRunning, hsem]

/-- In every reachable state an item that left through the `ctx.Done()` arm has
    no output and the error entry "aborted before execution because the step was closed" under its own index. -/
theorem aborted_items_are_reported_as_errors (P : Pool α β) (sched : List Tr) (s : PoolState α β)
    (h : runSched P (init P) sched = some s) (i : Nat) (hi : s.phase[i]? = some .aborted) :
    s.outputs[i]? = some none ∧ s.errors[i]? = some (some ItemOutcome.abortMsg) :=
  (inv_reachable ⟨sched, h⟩).abortedRes i hi

/-- For EVERY complete schedule, the step being closed at any point or not:
    the output is the declarative output of the effective per-item outcomes (aborted = failed);
    `success` is reported only if every item was executed and succeeded, and then lists all of them in order;
    a `failure` mentions every index in exactly one of `errors` / `data` (keys ascending, no others), every aborted
    index is in `errors`, and `data` holds only results of items that really executed with `success`. -/
theorem closed_pool_accounts_for_every_item (P : Pool α β) (sched : List Tr) (s : PoolState α β)
    (h : runSched P (init P) sched = some s) (hd : allDone s = true) :
    assemble s = expectedOf (effOutcomes P s) ∧
    (∀ d, assemble s = .success d →
      allExecuted s = true ∧ P.outcomes.all ItemOutcome.isOk = true ∧ d = P.outcomes.map ItemOutcome.okVal ∧
        d.length = P.xs.length) ∧
    (∀ d e, assemble s = .failure d e →
      (∀ i, (i < P.xs.length ↔ ((∃ m, (i, m) ∈ e) ∨ (∃ v, (i, v) ∈ d))) ∧ ¬ ((∃ m, (i, m) ∈ e) ∧ (∃ v, (i, v) ∈ d))) ∧
      e.Pairwise (fun x y => x.1 < y.1) ∧ d.Pairwise (fun x y => x.1 < y.1) ∧
      (∀ i : Nat, s.phase[i]? = some .aborted → (i, ItemOutcome.abortMsg) ∈ e) ∧
      (∀ i v, (i, v) ∈ d → ∃ a, P.xs[i]? = some a ∧ s.phase[i]? = some .done ∧ P.exec i a = .ok v)) := by
  have hI := inv_reachable ⟨sched, h⟩
  have hA := assemble_done hI hd
  refine ⟨hA, ?_, ?_⟩
  · intro d hs
    rw [hA] at hs
    obtain ⟨hall, hdat⟩ := expectedOf_success hs
    -- an aborted item is an `err`, so with every effective outcome ok nothing was aborted
    have hex : allExecuted s = true := by
      simp only [allExecuted, List.all_eq_true]
      intro ph hm
      obtain ⟨i, hi⟩ := List.getElem?_of_mem hm
      rcases effOutcome_cases hI hd (List.getElem?_eq_getElem (lt_of_phase hI hi)) with ⟨hph, _⟩ | ⟨_, he⟩
      · rw [hi] at hph; cases hph; rfl
      · cases List.all_eq_true.mp hall _ (List.mem_of_getElem? he)
    have heq := effOutcomes_of_allExecuted hI hex
    rw [heq] at hall hdat
    exact ⟨hex, hall, hdat, by rw [hdat, List.length_map, outcomes_length]; rfl⟩
  · intro d e hs
    rw [hA] at hs
    obtain ⟨hE, hD, hsE, hsD, hpart⟩ := expectedOf_failure_spec hs
    refine ⟨fun i => effOutcomes_length P s ▸ hpart i, hsE, hsD, ?_, ?_⟩
    · intro i hph
      have hlt : i < P.xs.length := lt_of_phase hI hph
      refine (hE i _).mpr ⟨.err ItemOutcome.abortMsg, ?_, rfl⟩
      rw [effOutcomes_getElem?, List.getElem?_eq_getElem hlt]; simp [hph]
    · intro i v hv
      have ho := (hD i v).mp hv
      have hlt : i < P.xs.length := effOutcomes_length P s ▸ (List.getElem?_eq_some_iff.mp ho).1
      rcases effOutcome_cases hI hd (List.getElem?_eq_getElem hlt) with ⟨hph, he⟩ | ⟨_, he⟩ <;> rw [he] at ho
      · exact ⟨_, List.getElem?_eq_getElem hlt, hph, Option.some.inj ho⟩
      · cases ho

/-- Regenerated fact.  The pool model above has no notion of time: an item waits for a slot
    or for the close, nothing else.  That is a fact about `internal/step/foreach/provider.go`, extracted on every run: no
    time constant and no timer call (`time.NewTimer/After/AfterFunc/Sleep/NewTicker/Tick/Since/Until`, `Reset`,
    `context.WithTimeout/WithDeadline`) anywhere in the provider.  A new timer is a changed fact; what it may do is
    `parallelism_bound_with_timer`, and the long-queue cases of the foreach stream keep items queued for longer than any
    duration a timer of this kind would have; none exists at HEAD. -/
theorem foreach_pool_has_no_timer : Arca.Gen.foreachTimers = [] := by decide

/-- Regenerated fact.  `executeSubWorkflows` contains ONE select; its arms are
    exactly the semaphore send (`Tr.acquire`, first arm: no `default` arm precedes it) and the receive from
    `r.ctx.Done()` (`Tr.abort`): a queued item can leave the queue in no other way (no timer arm), and it does watch the
    close. -/
theorem queued_items_wait_for_slot_or_close_only :
    Arca.Gen.Skel.step_foreach_provider_runningStep_executeSubWorkflows.filter
        (fun t => Arca.Model.Skel.startsWith "comm(" t || Arca.Model.Skel.startsWith "select" t) =
      ["select{", "comm(sem <- struct{}{}):", "comm(<-r.ctx.Done()):"] ∧
    Arca.Model.Skel.adjacent (Arca.Model.Skel.isTok "select{") (Arca.Model.Skel.isTok "comm(sem <- struct{}{}):")
      Arca.Gen.Skel.step_foreach_provider_runningStep_executeSubWorkflows = true := by
  rw [Arca.Proofs.SkelUtil.startsWith_eq_bytes]
  decide +kernel

/-- If the timer arm of a queued item leaves the item queued (`stepT`), every
    schedule with timer events is a schedule of the pool without them, ending in the same state: all theorems above carry
    over, however often and whenever timers fire. -/
theorem timer_schedule_is_pool_schedule (P : Pool α β) (l : List TrT) (s : PoolState α β)
    (h : runSchedT P (init P) l = some s) : runSched P (init P) (untick l) = some s :=
  runSchedT_untick h

/-- Never more than `parallelism` sub-workflows at a time, for every interleaving of item
    goroutines, closes and timer events. -/
theorem parallelism_bound_with_timer (P : Pool α β) (l : List TrT) (s : PoolState α β)
    (h : runSchedT P (init P) l = some s) : running s = s.sem ∧ s.sem ≤ P.p ∧ running s ≤ P.p :=
  parallelism_bound P (untick l) s (runSchedT_untick h)

/-- Counterexample, kernel-checked.  A timer arm after which the item EXECUTES
    without having taken a slot breaks the bound as soon as one item has been queued long enough for its timer to fire:
    parallelism 1, item 0 holds the slot, the timer of the queued item 1 fires, two items run. -/
theorem timer_start_without_slot_breaks_bound :
    ∃ (P : Pool Nat Nat) (s₁ s₂ : PoolState Nat Nat), runSched P (init P) [.acquire 0] = some s₁ ∧
      tickWithoutSlot P s₁ 1 = some s₂ ∧ P.p < running s₂ :=
  ⟨{ xs := [10, 20, 30], p := 1, exec := fun _ a => .ok (a + 1) },
   _, _, rfl, rfl, by decide⟩

/-- Once the close has reached every queued item (nothing is pending any more: every item
    goroutine parked in its select was woken on the `ctx.Done()` arm, which is what the Go runtime does when the channel
    is closed while the semaphore is full), NO item run begins any more, whatever the schedule.  The run to `s₁` is not
    used (any `s₁` with nothing pending will do); it keeps the shape of `close_parked_work_bounded_by_parallelism`. -/
theorem close_parked_no_new_start (P : Pool α β) (sched rest : List Tr) (s₁ s₂ : PoolState α β)
    (_h₁ : runSched P (init P) sched = some s₁) (hq : pendingCount s₁ = 0)
    (h₂ : runSched P s₁ rest = some s₂) : ∀ i, Tr.acquire i ∉ rest :=
  no_acquire_runSched hq h₂

/-- ... and what is left to do after the close is bounded by the items that
    held a slot, i.e. by `parallelism` — it does not grow with the number of queued items (the return bound of C06). -/
theorem close_parked_work_bounded_by_parallelism (P : Pool α β) (sched rest : List Tr) (s₁ s₂ : PoolState α β)
    (h₁ : runSched P (init P) sched = some s₁) (hc : s₁.cancelled = true) (hq : pendingCount s₁ = 0)
    (h₂ : runSched P s₁ rest = some s₂) : rest.length ≤ running s₁ ∧ running s₁ ≤ P.p := by
  have hm := measure_runSched h₂
  have hb := (parallelism_bound P sched s₁ h₁).2.2
  simp only [Arca.Model.ForeachPool.measure, hq, hc] at hm
  exact ⟨by simp at hm; omega, hb⟩

/-- three items, parallelism 2, the middle one fails -/
def demo : Pool Nat Nat :=
  { xs := [10, 20, 30]
    p := 2
    exec := fun _ a => if a = 20 then .err "boom" else .ok (a + 1) }

/-- items finish OUT OF ORDER: 1 before 2 before 0 -/
def demoSched : List Tr :=
  [.acquire 0, .acquire 1, .finish 1, .acquire 2, .finish 2, .finish 0]

example : (runSched demo (init demo) demoSched).map assemble = some (.failure [(0, 11), (2, 31)] [(1, "boom")]) := by
  decide +kernel
example : (runSched demo (init demo) (seqSched 3)).map assemble = some (.failure [(0, 11), (2, 31)] [(1, "boom")]) := by
  decide +kernel
example : expected demo = .failure [(0, 11), (2, 31)] [(1, "boom")] := by decide +kernel
/-- the third acquire is refused while two items run (the bound is enforced by the model, not assumed) -/
example : runSched demo (init demo) [.acquire 0, .acquire 1, .acquire 2] = none := by decide +kernel
example : (runSched demo (init demo) demoSched).map (fun s => (allDone s, s.cancelled, s.started)) =
    some (true, false, [(0, 10), (1, 20), (2, 30)]) := by decide +kernel

def demoOk : Pool Nat Nat := { demo with exec := fun _ a => .ok (a + 1) }

example : (runSched demoOk (init demoOk) demoSched).map assemble = some (.success [some 11, some 21, some 31]) := by
  decide +kernel
/-- an output other than `success` is a failure of that item, its data is not listed -/
example : expected ({ demo with exec := fun i a => if i = 0 then .otherOutput "alt" a else .ok a } : Pool Nat Nat) =
    .failure [(1, 20), (2, 30)] [(0, "subworkflow finished with output 'alt' instead of 'success'")] := by decide +kernel
/-- the empty list succeeds with an empty list -/
example : (runSched ({ demo with xs := [] } : Pool Nat Nat) (init { demo with xs := [] }) []).map
    (fun s => (allDone s, assemble s)) = some (true, .success []) := by decide +kernel

-- schedules on which the code before 26900e2 violated the property

/-- parallelism 1, item 0 holds the slot, the step is closed, item 1 leaves: the slot stays taken, item 2 cannot start
    next to item 0 (before the fix item 1's deferred select could free item 0's slot) -/
example : runSched ({ demoOk with p := 1 } : Pool Nat Nat) (init { demoOk with p := 1 })
    [.acquire 0, .cancel, .abort 1, .acquire 2] = none := by decide +kernel

/-- item 0 succeeds, the step is closed, items 1 and 2 never run: the step reports a failure that accounts for every
    index (before the fix: `success` with data `[11, nil, nil]`) -/
example : (runSched demoOk (init demoOk) [.acquire 0, .finish 0, .cancel, .abort 1, .abort 2]).map
    (fun s => (allDone s, s.cancelled, assemble s)) =
    some (true, true, .failure [(0, 11)] [(1, ItemOutcome.abortMsg), (2, ItemOutcome.abortMsg)]) := by decide +kernel

example : (runSched demo (init demo) [.acquire 0, .acquire 1, .finish 1, .finish 0, .cancel, .abort 2]).map
    (fun s => (allDone s, assemble s)) =
    some (true, .failure [(0, 11)] [(1, "boom"), (2, ItemOutcome.abortMsg)]) := by decide +kernel

/-- Go picks among ready select arms at random: an item may still START after the close as long as a slot is free -/
example : (runSched demoOk (init demoOk) [.cancel, .acquire 2, .acquire 0, .abort 1, .finish 0, .finish 2]).map
    (fun s => (allDone s, running s, assemble s)) =
    some (true, 0, .failure [(0, 11), (2, 31)] [(1, ItemOutcome.abortMsg)]) := by decide +kernel

/-- non-vacuity: such a closed state exists and still has work left (item 0 runs), while items 1, 2 were queued -/
example : (runSched demoOk (init demoOk) [.acquire 0, .acquire 1, .cancel, .abort 2]).map
    (fun s => (s.cancelled, pendingCount s, running s)) = some (true, 0, 2) := by decide +kernel
/-- the timer of a queued item may fire any number of times -/
example : (runSchedT ({ demoOk with p := 1 } : Pool Nat Nat) (init { demoOk with p := 1 })
    [.pool (.acquire 0), .tick 1, .tick 2, .tick 1, .pool (.finish 0), .pool (.acquire 1)]).map
    (fun s => (running s, s.sem)) = some (1, 1) := by decide +kernel
/-- ... but not for an item that is not queued -/
example : runSchedT demoOk (init demoOk) [.pool (.acquire 0), .tick 0] = none := by decide +kernel

end Arca.Props.C13
