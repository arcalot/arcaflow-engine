/-
C02 — steps start only after their dependencies, with the data those produced.

Every statement quantifies over every well-formed prepared workflow `P` (`P.WF`: what `Prepare` hands to `Execute`;
validated on every real prepared DAG by the driver; for the Prepare model its graph part - `inv`, `fresh`, `no_ready` -
is `C10.prepare_inv`, the clauses about the items are validated on real DAGs only), every function table, every
processing order of the ready sets that invents no node (`OrdOK`: it may permute, drop and repeat the popped nodes), every
reachable loop state and every event.
-/
import Arca.Proofs.LoopDag
import Arca.Proofs.LoopDagCex
import Arca.Proofs.DgraphExt

namespace Arca.Props.C02
open Arca.Model

/-- the graph on which a run works keeps the prepared workflow's nodes and edges and satisfies the graph invariant -/
theorem run_keeps_graph_invariant (P : Prepared) (fns : Fns) (ord : Order) (hP : P.WF) (h : List Event) :
    LoopDagInv P (run P fns ord h).1 :=
  run_dag_inv P fns ord hP h

set_option linter.unusedVariables false in -- `hP` is not used (`LoopDagInv P s` is all the proof needs); it stays
-- because the property is stated of well-formed workflows throughout
/--
When a reaction hands a stage its input, every required (`and`) dependency of that stage's node
is resolved and every completion dependency is settled in the state after the reaction, and the value handed over is
the item's data resolved over the reaction's data model.
-/
theorem provide_after_deps (P : Prepared) (fns : Fns) (ord : Order) (hord : OrdOK ord) (s : LoopState) (e : Event)
    (hP : P.WF) (h : LoopDagInv P s) (step stage : String) (v : Val)
    (hp : Action.provide step stage v ∈ (react P fns ord s e).2) :
    ∃ id it d, lookup id P.items = some it ∧ it.kind = Kind.stage ∧ it.step = step ∧ it.stage = stage ∧
      it.data = some d ∧
      (∃ g, resolveIn fns g (react P fns ord s e).1.data d = .ok v) ∧
      (∀ ed ∈ P.dag.edges, ed.2.1 = id → ed.2.2 = Dep.and → statusIs (react P fns ord s e).1.dag ed.1 St.resolved) ∧
      (∀ ed ∈ P.dag.edges, ed.2.1 = id → ed.2.2 = Dep.cand →
          statusIs (react P fns ord s e).1.dag ed.1 St.resolved ∨ statusIs (react P fns ord s e).1.dag ed.1 St.unres) :=
  react_actsOK P fns ord hord s e h _ hp

/--
... and every stage output such a required dependency stands for is present in the data
model the expressions are evaluated over: no step observes a missing value.  (`EventOK`: callbacks name declared stages
and declared outputs — what C12 establishes of the providers — and `start` comes first.)
-/
theorem provide_sees_produced_values (P : Prepared) (fns : Fns) (ord : Order) (hord : OrdOK ord) (s : LoopState) (e : Event)
    (hP : P.WF) (h : LoopDagInv P s) (hd : DataInv P s) (hm : DataMap s) (hev : EventOK P s e)
    (step stage : String) (v : Val)
    (hp : Action.provide step stage v ∈ (react P fns ord s e).2)
    (halive : (react P fns ord s e).1.dead = false) :
    ∃ id it, lookup id P.items = some it ∧ it.kind = Kind.stage ∧ it.step = step ∧ it.stage = stage ∧
      ∀ ed ∈ P.dag.edges, ed.2.1 = id → ed.2.2 = Dep.and →
        ∀ src, lookup ed.1 P.items = some src → src.kind = Kind.stageOutput →
          (lookupData (react P fns ord s e).1.data src.step src.stage src.output).isSome = true := by
  obtain ⟨id, it, d, h1, h2, h3, h4, _, _, h7, _⟩ := react_actsOK P fns ord hord s e h _ hp
  exact ⟨id, it, h1, h2, h3, h4, fun ed hed hto hand src hsrc hk =>
    react_data_inv P fns ord hP s e h hd hm hev halive ed.1 src hsrc hk (h7 ed hed hto hand)⟩

/-- the data invariant holds along every history that starts with `start` and continues with declared callbacks -/
theorem data_model_holds_resolved_outputs (P : Prepared) (fns : Fns) (ord : Order) (hP : P.WF) (input : Val)
    (hist : List Event) (hh : ∀ e ∈ hist, EventDeclared P e ∧ ∀ input, e ≠ Event.start input) :
    DataInv P (run P fns ord (Event.start input :: hist)).1 := by
  unfold run
  rw [runFrom_cons]
  have h0 := init_dag_inv P hP
  exact (runFrom_data_inv P fns ord hP hist hh _ (react_dag_inv P fns ord _ _ h0)
    (react_data_inv P fns ord hP (LoopState.init P) (Event.start input) h0 (init_data_inv P hP) (init_data_map P)
      ⟨trivial, fun _ _ => init_no_output_resolved P hP⟩)
    (react_data_map P fns ord _ _ (init_data_map P))).1

/-- non-vacuity: the well-formedness hypothesis is satisfiable by a workflow with stage outputs and a group node -/
example : Cex.P2.WF := Cex.P2_wf

/--
The tie of the graph model to the real library.  `arcadrv dgraph` compares go.arcalot.io/dgraph with the handle layer
`HGraph` (Model/DgraphExt.lean: the core model plus `Remove` / `Disconnect*`, which the engine never calls).  On every graph that
is built with the core operations only - in any order, with any arguments, successful or not - that layer computes exactly
`Graph.addNode` / `Graph.connect` / `Graph.resolve` (the other operations are the core functions themselves), so a run of the
differential check without disagreement is a check of the model the theorems above are about.
-/
theorem dgraph_check_covers_core_model (g : Graph String) (hb : g.Built) :
    (∀ id, (HGraph.ofGraph g).addNode id = liftG (g.addNode id)) ∧
    (∀ src dst d, (HGraph.ofGraph g).connect src dst d = liftG (g.connect src dst d)) ∧
    (∀ id st, (HGraph.ofGraph g).resolve id st = liftG (g.resolve id st)) :=
  HGraph.agrees_on_built hb

/-- non-vacuity: a graph with a resolved node, an obviated entry and a ready dependent is `Built` -/
example : ∃ g : Graph Nat, g.Built ∧ g.statusOf 0 = some St.resolved ∧ g.ready = [2] ∧
    (g.find? 2).map (·.out) = some [(1, Dep.obv)] ∧ (g.find? 2).map (·.res) = some [(0, Dep.or)] := by
  have h0 : (Graph.empty : Graph Nat).Built := .empty
  have h1 := h0.addNode (id := 0) (g' := ⟨[⟨0, .waiting, [], []⟩], [], []⟩) rfl
  have h2 := h1.addNode (id := 1) (g' := ⟨[⟨0, .waiting, [], []⟩, ⟨1, .waiting, [], []⟩], [], []⟩) rfl
  have h3 := h2.addNode (id := 2)
    (g' := ⟨[⟨0, .waiting, [], []⟩, ⟨1, .waiting, [], []⟩, ⟨2, .waiting, [], []⟩], [], []⟩) rfl
  have h4 := h3.connect (src := 0) (dst := 2) (d := .or)
    (g' := ⟨[⟨0, .waiting, [], []⟩, ⟨1, .waiting, [], []⟩, ⟨2, .waiting, [(0, .or)], []⟩], [(0, 2, .or)], []⟩) rfl
  have h5 := h4.connect (src := 1) (dst := 2) (d := .or)
    (g' := ⟨[⟨0, .waiting, [], []⟩, ⟨1, .waiting, [], []⟩, ⟨2, .waiting, [(0, .or), (1, .or)], []⟩],
      [(0, 2, .or), (1, 2, .or)], []⟩) rfl
  have h6 := h5.resolve (id := 0) (st := .resolved)
    (g' := ⟨[⟨0, .resolved, [], []⟩, ⟨1, .waiting, [], []⟩, ⟨2, .waiting, [(1, .obv)], [(0, .or)]⟩],
      [(0, 2, .or), (1, 2, .or)], [2]⟩) rfl
  exact ⟨_, h6, by decide⟩

end Arca.Props.C02
