/-
C20 — the engine API classifies results and resolves files consistently.

The model is `Arca.Model.EngineApi`: `Parse` / `RunWorkflow` / `Run` of engine.go, the file cache of loadfile/loadfile.go,
stage 6 of `Executor.Prepare` (output schemas) and the CLI's exit codes.  Everything outside the entry point — the YAML
converter, the file system, stages 1-5 of `Prepare`, `Execute` — is a parameter `env : Env P I D`; every theorem holds
for every such environment, every file cache, every file name and input, and every amount of fuel.

What is NOT proved here and why:
* that the real `Prepare`/`Execute` are functions of the workflow text and context only: the built-in `readFile`
  resolves relative paths against the process working directory (finding F14, see `cwd_call_sites_pinned`); the
  independence from the working directory is therefore stated for the entry point (`abs` is applied to the root
  directory only) and checked on the real code by the `engineapi` stream;
* `engine_equals_direct` without hypotheses: it holds for every cache for which `Parse` gets past its file stage and its
  check for reference cycles (`Prepare` is a total function here; the real one never returns on a reference cycle,
  which is why `Parse` checks the contents it is going to prepare: `parse_rejects_cycles_in_used_files`,
  `prepared_contents_acyclic`).
-/
import Arca.Proofs.EngineApiParse
import Arca.Proofs.EngineApiSupplied
import Arca.Gen.EngineApi
import Arca.Gen.Unknown
import Arca.Expected.EngineApi

namespace Arca.Props.C20
open Arca.Model.EngineApi Arca.Proofs.EngineApi

section
variable {P I D : Type}

/-- A result without error carries exactly the flag the workflow declares for the chosen output or, when the schema is
    inferred, the flag `outputID = "error"`; and the chosen output is one of the workflow's outputs.  (The second
    conjunct is the first with `classify` unfolded.) -/
theorem error_flag_exact (env : Env P I D) (fuel : Nat) (files : FileCache) (name input : String)
    (wf : Wf) (p : P) (hp : parse env fuel files name = .ok (wf, p))
    (hok : (runWorkflow env fuel files name input).err = none) :
    (runWorkflow env fuel files name input).isError =
      classify (declaredFlag wf (runWorkflow env fuel files name input).outputID) (runWorkflow env fuel files name input).outputID ∧
    ((runWorkflow env fuel files name input).isError =
      match declaredFlag wf (runWorkflow env fuel files name input).outputID with
      | some b => b
      | none => decide ((runWorkflow env fuel files name input).outputID = "error")) ∧
    wf.outputs.contains (runWorkflow env fuel files name input).outputID = true := by
  rcases runWorkflow_cases env fuel files name input with ⟨e, he⟩ | ⟨wf', p', id, d, hp', hc, hr⟩
  · rw [he] at hok
    cases hok
  · cases hp.symm.trans hp'
    rw [hr]
    refine ⟨rfl, ?_, hc⟩
    cases declaredFlag wf id <;> rfl

/-- With an explicit output schema the prepared workflow has a declared flag for every output (stage 6 of Prepare
    rejects the workflow otherwise), so the flag of a result never falls back to the name of the output. -/
theorem error_flag_declared (env : Env P I D) (wf : Wf) (ctx : List (String × String)) (p : P) (tbl : List (String × Bool))
    (hd : wf.declared = some tbl) (hp : prepare env wf ctx = .ok p) (id : String) (hid : id ∈ wf.outputs) :
    ∃ b, declaredFlag wf id = some b ∧ classify (declaredFlag wf id) id = b := by
  unfold prepare at hp
  split at hp
  · cases hp
  split at hp <;> cases hp
  have hc := ‹schemaComplete wf = true›
  simp only [schemaComplete, hd, List.all_eq_true] at hc
  obtain ⟨b, hb⟩ := Option.isSome_iff_exists.mp (hc id hid)
  exact ⟨b, by simp [declaredFlag, hd, hb], by simp [declaredFlag, hd, hb, classify]⟩

/-- Every error return of `RunWorkflow` is `("", nil, true, err)` (the last three conjuncts are fields of the first). -/
theorem error_flag_on_error (env : Env P I D) (fuel : Nat) (files : FileCache) (name input : String) (e : Err)
    (h : (runWorkflow env fuel files name input).err = some e) :
    runWorkflow env fuel files name input = errResult e ∧
    (runWorkflow env fuel files name input).isError = true ∧ (runWorkflow env fuel files name input).outputID = "" ∧
    (runWorkflow env fuel files name input).data.isNone = true := by
  rcases runWorkflow_cases env fuel files name input with ⟨e', he⟩ | ⟨_, _, _, _, _, _, hr⟩
  · rw [he] at h ⊢
    cases h
    exact ⟨rfl, rfl, rfl, rfl⟩
  · rw [hr] at h
    cases h

/-- A workflow that does not parse is reported as an error result carrying the parse error. -/
theorem runWorkflow_parse_error_is_error (env : Env P I D) (fuel : Nat) (files : FileCache) (name input : String) (e : Err)
    (h : parse env fuel files name = .error e) :
    runWorkflow env fuel files name input = errResult e ∧
    (runWorkflow env fuel files name input).isError = true ∧ (runWorkflow env fuel files name input).err = some e := by
  simp [runWorkflow, h, errResult]

/-- The empty file name means "workflow.yaml": both spellings give the same result, for every cache and input. -/
theorem default_file_name (env : Env P I D) (fuel : Nat) (files : FileCache) (input : String) :
    runWorkflow env fuel files "" input = runWorkflow env fuel files "workflow.yaml" input := by
  simp [runWorkflow, parse, parseWith, parseFilesWith, defaultName]

/-- A cache without the workflow file is `ErrNoWorkflowFile`, whatever else it contains. -/
theorem missing_workflow_file (env : Env P I D) (fuel : Nat) (files : FileCache) (name input : String)
    (h : getFile (defaultName name) files.files = none) :
    (runWorkflow env fuel files name input).err = some .noWorkflowFile := by
  simp [runWorkflow, parse, parseWith, parseFilesWith, h, errResult]

/-- Once the file stage of `Parse` has produced the workflow `wf` and the merged cache `m`, the contents of `m` have
    passed the check for reference cycles and the version is supported, `RunWorkflow` is: prepare `wf` on the contents
    of `m`, execute, classify — i.e. the direct path on the merged cache. -/
theorem engine_equals_direct (env : Env P I D) (fuel : Nat) (files : FileCache) (name input : String)
    (wf : Wf) (m : FileCache) (hf : parseFiles env fuel files name = .ok (wf, m))
    (hc : checkCycles env.fromYAML fuel wf m.contents [] = .ok ())
    (hv : supportedVersion wf.version = true) :
    runWorkflow env fuel files name input = direct env wf m.contents input := by
  rw [runWorkflow_of_files input hf, hc]
  exact if_pos hv

/-- Besides the check for reference cycles the only thing the engine front end adds to the direct path is the version
    check. -/
theorem unsupported_version_rejected (env : Env P I D) (fuel : Nat) (files : FileCache) (name input : String)
    (wf : Wf) (m : FileCache) (hf : parseFiles env fuel files name = .ok (wf, m))
    (hc : checkCycles env.fromYAML fuel wf m.contents [] = .ok ())
    (hv : supportedVersion wf.version = false) :
    (runWorkflow env fuel files name input).err = some .unsupportedVersion := by
  rw [runWorkflow_of_files input hf, hc]
  simp [hv, errResult]

/-- In the merged cache the caller's own entries win over the copies discovered on disk: every key of the caller's
    cache keeps its entry (so a workflow without foreach steps sees exactly the caller's cache). -/
theorem caller_copy_wins (env : Env P I D) (passSupplied : Bool) (fuel : Nat) (files : FileCache) (name : String) (wf : Wf)
    (m : FileCache) (hf : parseFilesWith env passSupplied fuel files name = .ok (wf, m)) (k : String) (v : CtxFile)
    (hk : getFile k files.files = some v) : getFile k m.files = some v := by
  unfold parseFilesWith at hf
  repeat' split at hf
  all_goals cases hf
  · exact hk
  · rename_i hm
    rw [mergeFileCaches_pair] at hm
    split at hm <;> cases hm
    rw [getFile_putAll, hk]
    rfl

/-- If the contents `Parse` is going to prepare — the discovered files overridden by the caller's — contain a reference
    cycle (by key) that is reachable from the root workflow, `Parse` returns an error: the cycle, or a file that does not
    convert, or the model's fuel; never a result of `Prepare`, which would not return on such contents.  The proof uses
    the check `Parse` runs on the merged contents only, not how discovery found them: it holds whether or not discovery
    is handed the caller's cache, e.g. for a caller-supplied cyclic copy over an acyclic copy on disk with
    `passSupplied = false`: discovery follows the disk copy, the check still reports the cycle
    (`cyclic_copy_over_acyclic_disk_copy`). -/
theorem parse_rejects_cycles_in_used_files (env : Env P I D) (passSupplied : Bool) (fuel : Nat) (files : FileCache)
    (name : String) (wf : Wf) (m : FileCache) (hf : parseFilesWith env passSupplied fuel files name = .ok (wf, m))
    (q : String) (hq : KeyReach env.fromYAML (fun k => lookup k m.contents) wf q)
    (hcyc : OnCycle env.fromYAML (fun k => lookup k m.contents) q) :
    ∃ e, parseWith env passSupplied fuel files name = .error e ∧ FollowErr e := by
  cases hc : checkCycles env.fromYAML fuel wf m.contents [] with
  | ok u => exact absurd hcyc (checkCycles_sound hc hq).2
  | error e =>
    refine ⟨e, ?_, checkCycles_error_kind hc⟩
    simp only [parseWith, hf, hc]

/-- The same, read from the other side: whatever `Parse` hands to `Prepare` has no reference cycle that is reachable
    from the root workflow. -/
theorem prepared_contents_acyclic (env : Env P I D) (passSupplied : Bool) (fuel : Nat) (files : FileCache) (name : String)
    (wf : Wf) (p : P) (hp : parseWith env passSupplied fuel files name = .ok (wf, p)) :
    ∃ m, parseFilesWith env passSupplied fuel files name = .ok (wf, m) ∧ prepare env wf m.contents = .ok p ∧
      ∀ q, KeyReach env.fromYAML (fun k => lookup k m.contents) wf q →
        ¬ OnCycle env.fromYAML (fun k => lookup k m.contents) q := by
  unfold parseWith at hp
  repeat' split at hp
  all_goals cases hp
  exact ⟨_, ‹_›, ‹_›, fun q hq => (checkCycles_sound ‹_› hq).2⟩

/-- For a cache that supplies every (transitively) referenced file, the file stage of `Parse` is the check for reference
    cycles on the contents of that cache and, if it finds none, returns the caller's cache unchanged.  Nothing is read
    from disk: the right-hand side mentions neither the file system nor `filepath.Abs` nor the root directory. -/
theorem parseFiles_supplied (env : Env P I D) (fuel : Nat) (files : FileCache) (name : String) (cf : CtxFile) (wf : Wf)
    (hc : getFile (defaultName name) files.files = some cf) (hy : env.fromYAML cf.content = some wf)
    (hsup : SuppliesAll env.fromYAML files wf) :
    parseFiles env fuel files name =
      match checkCycles env.fromYAML fuel wf files.contents [] with
      | .ok () => .ok (wf, files)
      | .error e => .error e := by
  simp only [parseFiles, parseFilesWith, hc, hy, if_true,
    supplied_discovery_is_cycle_check env files files.rootDir fuel wf [] hsup]
  cases checkCycles env.fromYAML fuel wf files.contents [] with
  | error e => rfl
  | ok u => cases u; rfl

/-- … and `RunWorkflow` is: check the supplied contents for reference cycles, check the version, then the direct path
    on the caller's own cache. -/
theorem runWorkflow_supplied (env : Env P I D) (fuel : Nat) (files : FileCache) (name input : String) (cf : CtxFile) (wf : Wf)
    (hc : getFile (defaultName name) files.files = some cf) (hy : env.fromYAML cf.content = some wf)
    (hsup : SuppliesAll env.fromYAML files wf) :
    runWorkflow env fuel files name input =
      match checkCycles env.fromYAML fuel wf files.contents [] with
      | .error e => errResult e
      | .ok () => if supportedVersion wf.version then direct env wf files.contents input else errResult .unsupportedVersion := by
  have hpf := parseFiles_supplied env fuel files name cf wf hc hy hsup
  cases hck : checkCycles env.fromYAML fuel wf files.contents [] with
  | error e =>
    rw [hck] at hpf
    simp only [runWorkflow, parse, parseWith, hpf]
  | ok u =>
    rw [hck] at hpf
    rw [runWorkflow_of_files input hpf, hck]

/-- For a cache that supplies every transitively referenced file and passes the check for reference cycles, the engine
    result is the direct result on the caller's own cache — the files need not be on disk, the root directory need not
    exist.  `engine_equals_direct_partial` is the case `wf.refs = []`. -/
theorem engine_equals_direct_supplied (env : Env P I D) (fuel : Nat) (files : FileCache) (name input : String)
    (cf : CtxFile) (wf : Wf) (hc : getFile (defaultName name) files.files = some cf)
    (hy : env.fromYAML cf.content = some wf) (hsup : SuppliesAll env.fromYAML files wf)
    (hcyc : checkCycles env.fromYAML fuel wf files.contents [] = .ok ())
    (hv : supportedVersion wf.version = true) :
    runWorkflow env fuel files name input = direct env wf files.contents input := by
  rw [runWorkflow_supplied env fuel files name input cf wf hc hy hsup, hcyc]
  simp [hv]

/-- … and when the check fails, its error (a cycle, a file that does not convert, the model's fuel) is the result. -/
theorem supplied_cycle_reported (env : Env P I D) (fuel : Nat) (files : FileCache) (name input : String)
    (cf : CtxFile) (wf : Wf) (hc : getFile (defaultName name) files.files = some cf)
    (hy : env.fromYAML cf.content = some wf) (hsup : SuppliesAll env.fromYAML files wf) (e : Err)
    (hcyc : checkCycles env.fromYAML fuel wf files.contents [] = .error e) :
    runWorkflow env fuel files name input = errResult e ∧ FollowErr e := by
  rw [runWorkflow_supplied env fuel files name input cf wf hc hy hsup, hcyc]
  exact ⟨rfl, checkCycles_error_kind hcyc⟩

/-- The same without reference to the check: when the supplied files convert and some `rank` decreases along every
    reference between them (no cycle), and the fuel of the model exceeds the ranks, engine = direct. -/
theorem engine_equals_direct_supplied_acyclic (env : Env P I D) (fuel : Nat) (files : FileCache) (name input : String)
    (cf : CtxFile) (wf : Wf) (hc : getFile (defaultName name) files.files = some cf)
    (hy : env.fromYAML cf.content = some wf) (hsup : SuppliesAll env.fromYAML files wf)
    (rank : String → Nat) (hr : Ranked env.fromYAML (fun k => lookup k files.contents) rank wf)
    (n : Nat) (hn : ∀ r ∈ wf.refs, rank r < n) (hfuel : n < fuel)
    (hv : supportedVersion wf.version = true) :
    runWorkflow env fuel files name input = direct env wf files.contents input :=
  engine_equals_direct_supplied env fuel files name input cf wf hc hy hsup
    (checkCycles_complete env.fromYAML files.contents rank fuel wf [] n hr hn hfuel (fun p hp => by cases hp)) hv

/-- For a cache that supplies every transitively referenced file the result does not depend on the file system, on
    `filepath.Abs` (the working directory) or on the path functions: `Parse` does not read the disk at all. -/
theorem supplied_cache_ignores_disk (env : Env P I D) (fuel : Nat) (files : FileCache) (name input : String)
    (cf : CtxFile) (wf : Wf) (hc : getFile (defaultName name) files.files = some cf)
    (hy : env.fromYAML cf.content = some wf) (hsup : SuppliesAll env.fromYAML files wf)
    (readFile' : String → Option String) (abs' : String → String) (isAbs' : String → Bool) (join' : String → String → String) :
    runWorkflow { env with readFile := readFile', abs := abs', isAbs := isAbs', join := join' } fuel files name input =
      runWorkflow env fuel files name input := by
  rw [runWorkflow_supplied env fuel files name input cf wf hc hy hsup,
    runWorkflow_supplied { env with readFile := readFile', abs := abs', isAbs := isAbs', join := join' } fuel files name input
      cf wf hc hy hsup]
  rfl

/-- `engine_equals_direct` for a workflow without foreach steps: no file stage hypothesis is needed, the engine result
    is the direct result on the caller's own cache (whatever its root directory is).  `_partial` for the hypothesis
    `wf.refs = []`: a special case of `engine_equals_direct_supplied`, not a statement that is false without it. -/
theorem engine_equals_direct_partial (env : Env P I D) (fuel : Nat) (files : FileCache) (name input : String)
    (cf : CtxFile) (wf : Wf) (hc : getFile (defaultName name) files.files = some cf)
    (hy : env.fromYAML cf.content = some wf) (hr : wf.refs = []) (hv : supportedVersion wf.version = true) :
    runWorkflow env (fuel + 1) files name input = direct env wf files.contents input := by
  apply engine_equals_direct_supplied env (fuel + 1) files name input cf wf hc hy _ _ hv
  · intro q hq
    cases hq with
    | direct h => rw [hr] at h; cases h
    | trans h _ _ _ => rw [hr] at h; cases h
  · simp [checkCycles, hr]

/-- Before `Parse` handed the caller's cache to the discovery (the model with `passSupplied = false`), every referenced
    file was read from disk even when the caller supplied it: a cache for a directory that is not on disk failed with a
    read error although direct preparation of the same files succeeds (the former finding
    `C20:memory-cache-needs-disk`). -/
theorem memory_cache_needed_disk (env : Env P I D) (fuel : Nat) (files : FileCache) (name : String)
    (cf : CtxFile) (wf : Wf) (hc : getFile (defaultName name) files.files = some cf)
    (hy : env.fromYAML cf.content = some wf) (hrefs : wf.refs ≠ []) (hdisk : ∀ p, env.readFile p = none) :
    parseWith env false (fuel + 1) files name = .error .readError := by
  simp [parseWith, parseFilesWith, hc, hy,
    subworkflowCache_without_supplied_reads_disk env fuel wf files.rootDir [] [] hrefs hdisk]

/-- The entry point consults the working directory (`filepath.Abs`) for the root directory of the caller's cache and for
    its absolute spelling only (discovery: `filepath.Abs(rootDir)`; final merge: `sameDirectory(abs root, root)`): two
    working directories that resolve these two paths alike give the same result — in particular every working
    directory when the root directory is absolute, as it always is for a cache made by `NewFileCacheUsingContext`.
    A relative root directory means "relative to the working directory", by intent.  (`Prepare`/`Execute` are parameters
    here: the built-in `readFile` breaks this for the real code, finding F14, see `cwd_call_sites_pinned`.) -/
theorem cwd_independent (env : Env P I D) (f g : String → String) (fuel : Nat) (files : FileCache) (name input : String)
    (h : f files.rootDir = g files.rootDir) (h' : f (f files.rootDir) = g (f files.rootDir)) :
    runWorkflow (withAbs env f) fuel files name input = runWorkflow (withAbs env g) fuel files name input := by
  refine runWorkflow_congr (withAbs env g) f fuel files files.rootDir name input h ?_
  show sameDirectory f (g files.rootDir) files.rootDir = sameDirectory g (g files.rootDir) files.rootDir
  rw [sameDirectory, sameDirectory, ← h, h']

/-- Last writer wins: the merged entry of a key is the entry of the last cache in the argument list that has the key. -/
theorem merge_last_wins (abs : String → String) (cs : List (Option FileCache)) (m : FileCache)
    (h : mergeFileCaches abs cs = .ok m) (k : String) :
    getFile k m.files = lastWins k cs := by
  rw [mergeFrom_getFile h]
  cases lastWins k cs <;> rfl

/-- PARTIAL (the hypothesis `Agree` is needed, see `merge_order_dependent_without_agreement`): when the caches agree
    on the content of every key two of them share, the merged key -> content map does not depend on the order of the
    caches. -/
theorem merge_order_independent_partial (abs : String → String) (cs cs' : List (Option FileCache)) (m m' : FileCache)
    (hp : cs.Perm cs') (ha : Agree cs)
    (h : mergeFileCaches abs cs = .ok m) (h' : mergeFileCaches abs cs' = .ok m') (k : String) :
    (getFile k m.files).map (·.content) = (getFile k m'.files).map (·.content) := by
  rw [merge_last_wins abs cs m h, merge_last_wins abs cs' m' h']
  exact lastWins_content_perm hp ha

/-- the counterexample pair: the in-memory and the on-disk copy of one sub-workflow -/
def cexMemory : FileCache :=
  { rootDir := "/ctx"
    files := [("sub.yaml", { id := "sub.yaml", absPath := "/ctx/sub.yaml", content := "memory" })] }

def cexDisk : FileCache :=
  { rootDir := "/ctx"
    files := [("sub.yaml", { id := "sub.yaml", absPath := "/ctx/sub.yaml", content := "disk" })] }

/-- the content a merge gives to a key (`none`: the merge failed or the key is absent) -/
def mergedContent (cs : List (Option FileCache)) (k : String) : Option String :=
  match mergeFileCaches id cs with
  | .ok m => (getFile k m.files).map (·.content)
  | .error _ => none

/-- Without agreement the order decides (last writer wins): the same two caches, two orders, two contents — and the
    pair indeed violates the hypothesis of `merge_order_independent_partial`. -/
theorem merge_order_dependent_without_agreement :
    mergedContent [some cexMemory, some cexDisk] "sub.yaml" = some "disk" ∧
    mergedContent [some cexDisk, some cexMemory] "sub.yaml" = some "memory" ∧
    ¬ Agree [some cexMemory, some cexDisk] := by
  refine ⟨by decide +kernel, by decide +kernel, fun h => ?_⟩
  have := h cexMemory cexDisk "sub.yaml" _ _ (by simp) (by simp) rfl rfl
  revert this
  decide +kernel

/-- Caches loaded by `NewFileCacheUsingContext` + `LoadContext` from the same file system and root directory — the
    caches `SubworkflowCache` merges — agree on every shared key: the hypothesis of `merge_order_independent_partial`
    holds for them, so the order in which Go iterates its maps during discovery does not matter. -/
theorem loaded_caches_agree (env : Env P I D) (rootDir : String) (paths₁ paths₂ : List String) (c₁ c₂ : FileCache)
    (h₁ : loadCache env rootDir paths₁ = .ok c₁) (h₂ : loadCache env rootDir paths₂ = .ok c₂)
    (k : String) (v₁ v₂ : CtxFile) (g₁ : getFile k c₁.files = some v₁) (g₂ : getFile k c₂.files = some v₂) :
    v₁.content = v₂.content ∧ v₁.absPath = v₂.absPath := by
  obtain ⟨_, s₁⟩ := loadCache_spec h₁
  obtain ⟨_, s₂⟩ := loadCache_spec h₂
  obtain ⟨a₁, r₁⟩ := s₁ k v₁ g₁
  obtain ⟨a₂, r₂⟩ := s₂ k v₂ g₂
  exact ⟨Option.some.inj (r₁.symm.trans r₂), a₁.trans a₂.symm⟩

/-- Caches with non-empty root directories that denote different directories (different `filepath.Abs`) never merge,
    wherever the two stand in the list. -/
theorem merge_root_mismatch_rejected (abs : String → String) (cs : List (Option FileCache)) (c₁ c₂ : FileCache)
    (hne : ∀ c, some c ∈ cs → c.rootDir ≠ "") (h₁ : some c₁ ∈ cs) (h₂ : some c₂ ∈ cs)
    (hd : abs c₁.rootDir ≠ abs c₂.rootDir) : mergeFileCaches abs cs = .error .rootMismatch := by
  cases h : mergeFileCaches abs cs with
  | error e => rw [mergeFrom_error h]
  | ok m =>
    have := (rootsOk_roots hne (mergeFrom_ok h).1).1
    exact absurd ((this c₁ h₁).trans (this c₂ h₂).symm) hd

/-- The hypothesis "non-empty" of `merge_root_mismatch_rejected` is needed: an empty root directory resets the
    comparison, so two different directories merge when an empty root that `filepath.Abs` resolves to the first one
    (the working directory) stands between them.  (Not reachable through `Parse`: discovery only merges caches with one
    absolute root, and the caller's cache comes last.) -/
theorem merge_empty_root_bridges_directories :
    ∃ m, mergeFileCaches (fun s => if s = "" then "/ctx" else s)
      [some { rootDir := "/ctx", files := [] }, some { rootDir := "", files := [] }, some { rootDir := "/other", files := [] }] = .ok m ∧
      m.rootDir = "/other" :=
  ⟨{ rootDir := "/other", files := [] }, by decide +kernel, rfl⟩

/-- Caches whose root directories all denote one directory (same `filepath.Abs`: the same string, a relative and the
    absolute spelling, with or without trailing separator) always merge, in every order. -/
theorem merge_same_directory_ok (abs : String → String) (a : String) (cs : List (Option FileCache))
    (h : ∀ c, some c ∈ cs → abs c.rootDir = a) :
    ∃ m, mergeFileCaches abs cs = .ok m ∧ (m.rootDir = "" ∨ abs m.rootDir = a) :=
  have ⟨hok, hroot⟩ := rootsOk_same_dir (r := "") (Or.inl rfl) h
  ⟨_, by rw [mergeFileCaches, mergeFrom_eq, hok]; rfl, hroot⟩

/-- Caches that all carry the same root directory string always merge, in every order. -/
theorem merge_same_root_ok (abs : String → String) (r : String) (cs : List (Option FileCache))
    (h : ∀ c, some c ∈ cs → c.rootDir = r) :
    ∃ m, mergeFileCaches abs cs = .ok m ∧ (m.rootDir = "" ∨ abs m.rootDir = abs r) :=
  merge_same_directory_ok abs (abs r) cs (fun c hc => by rw [h c hc])

/-- An empty root directory in first position always merges; in second position it merges exactly when
    `filepath.Abs("")` — the working directory — is the directory of the first cache.  Success of a merge is order
    dependent for empty roots; `NewFileCache("", …)` used from inside the context directory merges. -/
theorem merge_empty_root_order_dependent (abs : String → String) (r : String) (fs fs' : Files) (hr : r ≠ "") :
    (∃ m, mergeFileCaches abs [some { rootDir := "", files := fs }, some { rootDir := r, files := fs' }] = .ok m) ∧
    ((∃ m, mergeFileCaches abs [some { rootDir := r, files := fs' }, some { rootDir := "", files := fs }] = .ok m) ↔
      abs r = abs "") := by
  rw [mergeFileCaches_pair, mergeFileCaches_pair]
  refine ⟨⟨_, rfl⟩, ?_⟩
  by_cases ha : abs r = abs "" <;> simp [sameDirectory, hr, ha]

/-- Whatever the spelling of the caller's root directory (relative, trailing separator, empty, absolute), the final merge
    of `Parse` succeeds: the file stage succeeds whenever discovery does, the merged cache keeps the caller's root and
    contains the discovered files overridden by the caller's own entries. -/
theorem any_root_accepted (env : Env P I D) (fuel : Nat) (files : FileCache) (name : String)
    (cf : CtxFile) (wf : Wf) (sc : FileCache) (hidem : AbsIdempotent env)
    (hc : getFile (defaultName name) files.files = some cf) (hy : env.fromYAML cf.content = some wf)
    (hs : subworkflowCache env fuel wf files.rootDir [] [] (some files) = .ok (some sc)) :
    parseFiles env fuel files name =
      .ok (wf, { rootDir := files.rootDir, files := putAll files.files (putAll sc.files []) }) := by
  have hroot := subworkflowCache_root (emptyRootsFirst_nil _) hs
  have hm : mergeFileCaches env.abs [some sc, some files] =
      .ok { rootDir := files.rootDir, files := putAll files.files (putAll sc.files []) } := by
    rw [mergeFileCaches_pair, if_pos]
    rcases hroot with hroot | ⟨hroot, _⟩
    · rw [Bool.or_eq_true, sameDirectory_iff, hroot, hidem]
      exact Or.inr (Or.inr rfl)
    · rw [hroot]
      rfl
  simp [parseFiles, parseFilesWith, hc, hy, hs, hm]

/-- F15: a cache whose root directory is any spelling of a directory gives the same result as the
    cache with the canonical absolute spelling of that directory. -/
theorem relative_root_accepted (env : Env P I D) (fuel : Nat) (files : FileCache) (name input : String)
    (hidem : AbsIdempotent env) :
    runWorkflow env fuel files name input =
      runWorkflow env fuel { rootDir := env.abs files.rootDir, files := files.files } name input := by
  refine runWorkflow_congr env env.abs fuel ⟨env.abs files.rootDir, files.files⟩ files.rootDir name input
    (hidem files.rootDir).symm ?_
  simp [sameDirectory, hidem files.rootDir]

end

/-- The CLI's exit code: 0 exactly for a non-error output, 2 exactly for an error output, 1 exactly when the workflow
    does not parse, 3 exactly when the run fails. -/
theorem exit_code_map (o : CliOutcome) :
    (exitCode o = 0 ↔ o = .output false) ∧ (exitCode o = 2 ↔ o = .output true) ∧
    (exitCode o = 1 ↔ o = .parseFailed) ∧ (exitCode o = 3 ↔ o = .runFailed) := by
  cases o with
  | parseFailed => decide
  | runFailed => decide
  | output b => cases b <;> decide

/-- the default file name of `Parse` is the one of the model -/
theorem default_file_name_pinned :
    Arca.Gen.EngineApi.defaultWorkflowFileName = Arca.Expected.EngineApi.defaultWorkflowFileName ∧
    defaultName "" = Arca.Gen.EngineApi.defaultWorkflowFileName := ⟨rfl, rfl⟩

/-- the supported versions of engine.go are the ones of the model -/
theorem supported_versions_pinned :
    Arca.Gen.EngineApi.supportedVersions = Arca.Expected.EngineApi.supportedVersions ∧
    supportedVersions = Arca.Gen.EngineApi.supportedVersions := ⟨rfl, rfl⟩

/-- `infer.OutputSchema` still infers the error flag as `outputID == "error"` and returns an explicit schema unchanged -/
theorem inferred_error_flag_pinned :
    Arca.Gen.EngineApi.inferredErrorFlag = Arca.Expected.EngineApi.inferredErrorFlag ∧
    Arca.Gen.EngineApi.explicitSchemaKept = true := ⟨rfl, rfl⟩

/-- The only `filepath.Abs` / `os.Getwd` / `os.Chdir` sites of engine.go, loadfile.go and the built-in functions are
    `NewFileCacheUsingContext(rootDir)` and the two calls of `sameDirectory(dir1, dir2)` — both modelled by `Env.abs`,
    applied to root directories only, so the working directory matters only through the meaning of a relative root
    directory (`cwd_independent`) — and the built-in `readFile(filePath)`: finding F14. -/
theorem cwd_call_sites_pinned : Arca.Gen.EngineApi.cwdCallSites = Arca.Expected.EngineApi.cwdCallSites := rfl

/-- `sameDirectory` and the rejection condition of `MergeFileCaches` are the ones `sameDirectory` / `mergeStep` of the
    model were written against -/
theorem same_directory_pinned :
    Arca.Gen.EngineApi.sameDirectoryBody = Arca.Expected.EngineApi.sameDirectoryBody ∧
    Arca.Gen.EngineApi.mergeRejectCondition = Arca.Expected.EngineApi.mergeRejectCondition := ⟨rfl, rfl⟩

/-- exit-code constants and the condition -> constant table of the CLI are the ones of the model -/
theorem exit_codes_pinned :
    Arca.Gen.EngineApi.exitCodes = Arca.Expected.EngineApi.exitCodes ∧
    Arca.Gen.EngineApi.exitCodeTable = Arca.Expected.EngineApi.exitCodeTable ∧
    Arca.Gen.EngineApi.mainExitArgs = Arca.Expected.EngineApi.mainExitArgs ∧
    Arca.Gen.EngineApi.mainFileCacheCalls = Arca.Expected.EngineApi.mainFileCacheCalls ∧
    lookup "ExitCodeOK" Arca.Gen.EngineApi.exitCodes = some exitCodeOK ∧
    lookup "ExitCodeInvalidData" Arca.Gen.EngineApi.exitCodes = some exitCodeInvalidData ∧
    lookup "ExitCodeWorkflowErrorOutput" Arca.Gen.EngineApi.exitCodes = some exitCodeWorkflowErrorOutput ∧
    lookup "ExitCodeWorkflowFailed" Arca.Gen.EngineApi.exitCodes = some exitCodeWorkflowFailed :=
  ⟨rfl, rfl, rfl, rfl, by
    simp [lookup, Arca.Gen.EngineApi.exitCodes, exitCodeOK, exitCodeInvalidData, exitCodeWorkflowErrorOutput,
      exitCodeWorkflowFailed]⟩

/-- the extractor recognised every construct it looked at -/
theorem engineapi_extractor_complete :
    (Arca.Gen.unknown.filter (fun s => s.startsWith "engineapi:")) = [] := by decide +kernel

/-- a two-file tree: workflow.yaml with one foreach step over sub.yaml; output ids `success` and `error`, no explicit
    schema; the prepared workflow is the list of context keys, execution returns the output named by the input -/
def demoRoot : Wf :=
  { version := "v0.2.0"
    refs := ["sub.yaml"]
    outputs := ["success", "error"]
    declared := none }

def demoSub : Wf :=
  { version := "v0.2.0"
    refs := []
    outputs := ["success"]
    declared := none }

def demoEnv (absOf : String → String) : Env (List String) String String :=
  { fromYAML := fun c => if c = "ROOT" then some demoRoot else if c = "SUB" then some demoSub else none
    abs := absOf
    isAbs := fun s => s.startsWith "/"
    join := fun a b => a ++ "/" ++ b
    readFile := fun p => if p = "/ctx/sub.yaml" then some "SUB" else none
    prepareSteps := fun wf ctx => if wf.refs.all (fun r => (lookup r ctx).isSome) then some (ctx.map (·.1)) else none
    decodeInput := fun s => some s
    execute := fun _ i => some (i, "data") }

def cliAbs (s : String) : String := if s = "ctx" then "/ctx" else s

def demoCache (root : String) : FileCache :=
  { rootDir := root
    files := [("workflow.yaml", { id := "workflow.yaml", absPath := "workflow.yaml", content := "ROOT" })] }

-- absolute root: the run reaches the output named by the input; `error` is flagged, `success` is not
example : ((runWorkflow (demoEnv cliAbs) 5 (demoCache "/ctx") "" "success").outputID,
    (runWorkflow (demoEnv cliAbs) 5 (demoCache "/ctx") "" "success").isError,
    (runWorkflow (demoEnv cliAbs) 5 (demoCache "/ctx") "" "success").err) = ("success", false, none) := by decide +kernel
example : ((runWorkflow (demoEnv cliAbs) 5 (demoCache "/ctx") "" "error").outputID,
    (runWorkflow (demoEnv cliAbs) 5 (demoCache "/ctx") "" "error").isError,
    (runWorkflow (demoEnv cliAbs) 5 (demoCache "/ctx") "" "error").err) = ("error", true, none) := by decide +kernel
-- the hypotheses of error_flag_exact / engine_equals_direct are satisfiable
example : (match parseFiles (demoEnv cliAbs) 5 (demoCache "/ctx") "" with
    | .ok (wf, m) => wf == demoRoot && m.rootDir == "/ctx" && (getFile "sub.yaml" m.files).isSome
    | .error _ => false) = true := by decide +kernel
-- the F15 witness: the same directory given as "ctx" (filepath.Abs = "/ctx") is accepted like "/ctx"
example : ((runWorkflow (demoEnv cliAbs) 5 (demoCache "ctx") "" "success").outputID,
    (runWorkflow (demoEnv cliAbs) 5 (demoCache "ctx") "" "success").err) = ("success", none) ∧
    (runWorkflow (demoEnv cliAbs) 5 (demoCache "/ctx") "" "success").err = none := by decide +kernel
-- the hypothesis of any_root_accepted / relative_root_accepted is satisfiable
example : AbsIdempotent (demoEnv cliAbs) := by
  intro s
  show cliAbs (cliAbs s) = cliAbs s
  unfold cliAbs
  by_cases h : s = "ctx" <;> simp [h]
-- genuinely different directories are still rejected
example : mergeFileCaches cliAbs [some (demoCache "/ctx"), some (demoCache "/elsewhere")] = .error .rootMismatch := by decide +kernel
-- an output the workflow does not declare is the "bug:" error; an unreadable sub-workflow is a read error
example : (runWorkflow (demoEnv cliAbs) 5 (demoCache "/ctx") "" "nope").err = some .noOutputSchema := by decide +kernel
example : (runWorkflow (demoEnv cliAbs) 5 (demoCache "/elsewhere") "" "success").err = some .readError := by decide +kernel
example : (runWorkflow (demoEnv cliAbs) 5 (demoCache "/ctx") "other.yaml" "success").err = some .noWorkflowFile := by decide +kernel
-- fuel 1 is not enough for a tree of depth 1 (the leaf needs its own call): explicit outcome, not a default
example : (runWorkflow (demoEnv cliAbs) 1 (demoCache "/ctx") "" "success").err = some .tooDeep := by decide +kernel
-- explicit schema: the declared flag wins over the name
example : classify (declaredFlag { demoRoot with declared := some [("success", true), ("error", false)] } "error") "error" = false ∧
    classify (declaredFlag { demoRoot with declared := some [("success", true), ("error", false)] } "success") "success" = true := by decide +kernel
-- a partial explicit schema is rejected by stage 6 of Prepare
example : schemaComplete { demoRoot with declared := some [("success", true)] } = false := by decide +kernel
-- Agree is satisfiable by distinct caches and fails for the counterexample pair
example : Agree [some (demoCache "/ctx"), none, some (demoCache "/ctx")] := by
  intro c₁ c₂ k v₁ v₂ h₁ h₂ g₁ g₂
  simp at h₁ h₂
  subst h₁ h₂
  rw [g₁] at g₂
  cases g₂
  rfl

def demoMid : Wf :=
  { version := "v0.2.0"
    refs := ["leaf.yaml"]
    outputs := ["success"]
    declared := none }

/-- a sub-workflow that references the key `sub.yaml`: stored under that key it references itself -/
def demoCyc : Wf :=
  { version := "v0.2.0"
    refs := ["sub.yaml"]
    outputs := ["success"]
    declared := none }

def demoRoot2 : Wf :=
  { version := "v0.2.0"
    refs := ["sub.yaml", "other.yaml"]
    outputs := ["success", "error"]
    declared := none }

/-- like `demoEnv`, with more file contents and the disk given as a table absolute path -> content -/
def demoEnv2 (disk : List (String × String)) : Env (List String) String String :=
  { fromYAML := fun c =>
      if c = "ROOT" then some demoRoot else if c = "ROOT2" then some demoRoot2 else if c = "SUB" then some demoSub
      else if c = "MID" then some demoMid else if c = "CYC" then some demoCyc else none
    abs := cliAbs
    isAbs := fun s => s.startsWith "/"
    join := fun a b => a ++ "/" ++ b
    readFile := fun p => lookup p disk
    prepareSteps := fun wf ctx => if wf.refs.all (fun r => (lookup r ctx).isSome) then some (ctx.map (·.1)) else none
    decodeInput := fun s => some s
    execute := fun _ i => some (i, "data") }

/-- `loadfile.NewFileCache(root, {"workflow.yaml": rootText, subs…})` -/
def memCache (root rootText : String) (subs : List (String × String)) : FileCache :=
  { rootDir := root
    files := (("workflow.yaml", rootText) :: subs).map (fun kc => (kc.1, { id := kc.1, absPath := kc.1, content := kc.2 })) }

def resultTriple (r : Result String) : String × Bool × Option Err := (r.outputID, r.isError, r.err)

-- every file supplied, nothing on disk (the directory does not exist): the run succeeds and equals the direct path …
example : resultTriple (runWorkflow (demoEnv2 []) 5 (memCache "/absent" "ROOT" [("sub.yaml", "SUB")]) "" "success") =
      ("success", false, none) ∧
    resultTriple (direct (demoEnv2 []) demoRoot (memCache "/absent" "ROOT" [("sub.yaml", "SUB")]).contents "success") =
      ("success", false, none) := by decide +kernel
-- … while the discovery that is not handed the caller's cache fails reading the file (finding
-- `C20:memory-cache-needs-disk`, fix e841ddf)
example : (match parseWith (demoEnv2 []) false 5 (memCache "/absent" "ROOT" [("sub.yaml", "SUB")]) "" with
    | .error .readError => true
    | _ => false) = true := by decide +kernel
-- the hypotheses of engine_equals_direct_supplied / _acyclic / supplied_cache_ignores_disk are satisfiable
example : SuppliesAll (demoEnv2 []).fromYAML (memCache "/absent" "ROOT" [("sub.yaml", "SUB")]) demoRoot := by
  intro q hq
  cases hq with
  | direct h =>
    simp only [demoRoot, List.mem_singleton] at h
    subst h
    exact ⟨_, rfl⟩
  | trans h hl hw hr =>
    simp only [demoRoot, List.mem_singleton] at h
    subst h
    have hc : (lookup "sub.yaml" (memCache "/absent" "ROOT" [("sub.yaml", "SUB")]).contents) = some "SUB" := by decide +kernel
    simp only [hc, Option.some.injEq] at hl
    subst hl
    have hs : (demoEnv2 []).fromYAML "SUB" = some demoSub := by decide +kernel
    rw [hs] at hw
    cases hw
    cases hr with
    | direct h' => simp [demoSub] at h'
    | trans h' _ _ _ => simp [demoSub] at h'
example : checkCycles (demoEnv2 []).fromYAML 5 demoRoot (memCache "/absent" "ROOT" [("sub.yaml", "SUB")]).contents [] = .ok () := by
  decide +kernel
-- a supplied sub-workflow that references a file that is only on disk: followed, loaded, merged
example : resultTriple (runWorkflow (demoEnv2 [("/ctx/leaf.yaml", "SUB")]) 5 (memCache "/ctx" "ROOT" [("sub.yaml", "MID")]) "" "success") =
      ("success", false, none) ∧
    (match parseFiles (demoEnv2 [("/ctx/leaf.yaml", "SUB")]) 5 (memCache "/ctx" "ROOT" [("sub.yaml", "MID")]) "" with
      | .ok (_, m) => (getFile "leaf.yaml" m.files).isSome && ((getFile "sub.yaml" m.files).map (·.content) == some "MID")
      | .error _ => false) = true := by decide +kernel
-- … and without the file on disk it is the read error
example : (runWorkflow (demoEnv2 []) 5 (memCache "/ctx" "ROOT" [("sub.yaml", "MID")]) "" "success").err = some .readError := by
  decide +kernel
-- some sub-workflows supplied, the others on disk; also with a relative spelling of the root directory
example : resultTriple (runWorkflow (demoEnv2 [("/ctx/other.yaml", "SUB")]) 5 (memCache "/ctx" "ROOT2" [("sub.yaml", "SUB")]) "" "success") =
      ("success", false, none) ∧
    resultTriple (runWorkflow (demoEnv2 [("/ctx/other.yaml", "SUB")]) 5 (memCache "ctx" "ROOT2" [("sub.yaml", "SUB")]) "" "success") =
      ("success", false, none) := by decide +kernel

/-- the caller's cyclic copy of `sub.yaml` over an acyclic copy on disk -/
def cyclicCopy : FileCache := memCache "/ctx" "ROOT" [("sub.yaml", "CYC")]

def acyclicDisk : List (String × String) := [("/ctx/sub.yaml", "SUB")]

/-- the merged cache: the copy loaded from disk overridden by the caller's -/
def cyclicMerged : FileCache :=
  { rootDir := "/ctx"
    files := [("sub.yaml", { id := "sub.yaml", absPath := "sub.yaml", content := "CYC" }),
              ("workflow.yaml", { id := "workflow.yaml", absPath := "workflow.yaml", content := "ROOT" })] }

/-- A caller-supplied cyclic copy of a sub-workflow over an acyclic copy on disk.  The discovery that is not handed the
    caller's cache follows the disk copy and gets past the file stage; the contents that would be prepared are the
    caller's and cyclic; the check on the merged contents reports it.  The discovery that is handed the caller's cache
    reports the cycle itself.  Either way `Parse` returns the self-reference error — `Prepare` is not reached. -/
theorem cyclic_copy_over_acyclic_disk_copy :
    parseFilesWith (demoEnv2 acyclicDisk) false 5 cyclicCopy "" = .ok (demoRoot, cyclicMerged) ∧
    (match parseWith (demoEnv2 acyclicDisk) false 5 cyclicCopy "" with
      | .error .selfReference => true
      | _ => false) = true ∧
    (match parseWith (demoEnv2 acyclicDisk) true 5 cyclicCopy "" with
      | .error .selfReference => true
      | _ => false) = true := by decide +kernel

-- the hypotheses of parse_rejects_cycles_in_used_files are satisfiable (by exactly that input)
example : ∃ wf m q, parseFilesWith (demoEnv2 acyclicDisk) false 5 cyclicCopy "" = .ok (wf, m) ∧
    KeyReach (demoEnv2 acyclicDisk).fromYAML (fun k => lookup k m.contents) wf q ∧
    OnCycle (demoEnv2 acyclicDisk).fromYAML (fun k => lookup k m.contents) q :=
  ⟨demoRoot, cyclicMerged, "sub.yaml", cyclic_copy_over_acyclic_disk_copy.1, .direct (by decide),
    "CYC", demoCyc, by decide +kernel, by decide +kernel, .direct (by decide)⟩

end Arca.Props.C20
