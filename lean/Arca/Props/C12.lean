/-
C12 — a plugin step reports a consistent life story under every interleaving.  Two layers: every path of `run()`
(`pluginPaths`, `foreachPaths`) against the executable acceptor `LifecycleSpec`, and the synchronisation skeleton `syncStep`
for closing, the refusal of a second input and providing without blocking.  Where the unchanged code violates a clause,
the negation is proved with a witness (`…_counterexample`) and the positive statement kept under the hypothesis that
excludes it (`…_partial`).  That the model is the code is the job of the correspondence stream `provider` (trace = one of
the paths, call outcomes = plugin skeleton).
-/
import Arca.Proofs.PluginTraces
import Arca.Proofs.PluginSync
import Arca.Proofs.PluginForeach

namespace Arca.Props.C12
open Arca.Gen

section Plugin
open Arca.Model.PluginStep

/-- Every trace the plugin provider can emit is a legal life story, for ANY list of output ids the plugin declares —
    with the lifecycle's transition relation widened by the one undeclared transition `deploy -> enabling`
    (`pluginUndeclaredEdges`).  See `plugin_traces_legal_counterexample` for the strict lifecycle. -/
theorem plugin_traces_legal_partial (outs : List String) :
    ∀ p ∈ pluginPaths outs, pluginAcceptsRelaxed outs p.2 = true := by
  intro p hp
  unfold pluginPaths at hp
  rcases List.mem_append.mp hp with h | h
  · exact Arca.Proofs.PluginTraces.fixed_paths_accepted outs p h
  · rcases List.mem_flatMap.mp h with ⟨x, hx, hpx⟩
    exact Arca.Proofs.PluginTraces.result_paths_accepted x outs hx p hpx

/-- the instance for the output list of the scripted plugin used by the correspondence harness -/
theorem plugin_traces_legal_scripted :
    ∀ p ∈ pluginPaths Arca.Proofs.PluginTraces.scriptedOuts,
      pluginAcceptsRelaxed Arca.Proofs.PluginTraces.scriptedOuts p.2 = true :=
  plugin_traces_legal_partial _

/-- Against the lifecycle exactly as declared the property is FALSE: `enableStage()` announces `deploy -> enabling`,
    which is not among `deployingLifecycleStage.NextStages` (`starting`, `deploy_failed`, `closed`).  Witness: the path
    of a disabled step, for any plugin. -/
theorem plugin_traces_legal_counterexample (outs : List String) :
    ∃ p ∈ pluginPaths outs, pluginAccepts outs p.2 = false :=
  ⟨_, Arca.Proofs.PluginTraces.disabled_mem outs, Arca.Proofs.PluginTraces.strict_rejects_disabled outs⟩

/-- `deploy -> enabling` is the ONLY transition that is announced without being declared -/
theorem plugin_only_undeclared_transition (outs : List String) :
    ∀ p ∈ pluginPaths outs, ∀ e ∈ LifecycleSpec.transitions p.2, e ∈ pluginEdges ∨ e = ("deploy", "enabling") := by
  intro p hp e he
  obtain ⟨_, _, _, _, _, _, htrans⟩ := Arca.Proofs.PluginTraces.accepts_iff.mp (plugin_traces_legal_partial outs p hp)
  exact (List.mem_append.mp (List.contains_iff_mem.mp (List.all_eq_true.mp htrans e he))).imp_right List.mem_singleton.mp

/-- exactly one completion is reported on every path -/
theorem plugin_exactly_one_completion (outs : List String) :
    ∀ p ∈ pluginPaths outs, (p.2.filter LifecycleSpec.isComplete).length = 1 := by
  intro p hp
  obtain ⟨_, _, _, hone, _⟩ := Arca.Proofs.PluginTraces.accepts_iff.mp (plugin_traces_legal_partial outs p hp)
  simpa using hone

/-- after the completion only stage failures are reported, and no stage is both finished and impossible -/
theorem plugin_nothing_but_failures_after_completion (outs : List String) :
    ∀ p ∈ pluginPaths outs,
      (LifecycleSpec.afterComplete p.2).all LifecycleSpec.isFail = true ∧
      LifecycleSpec.noDup (LifecycleSpec.finishedStages p.2) = true ∧
      (LifecycleSpec.finishedStages p.2).all (fun s => !(LifecycleSpec.failedStages p.2).contains s) = true := by
  intro p hp
  obtain ⟨hdup, hfinfail, _, _, hafter, _⟩ := Arca.Proofs.PluginTraces.accepts_iff.mp (plugin_traces_legal_partial outs p hp)
  exact ⟨hafter, hdup, hfinfail⟩

/-- `markStageFailures` is only ever entered at a case the (regenerated) switch has: no path hits `panic("unknown
    StageID")` -/
theorem plugin_mark_stage_failures_defined :
    ∀ first ∈ ["enabling", "starting", "running", "outputs"], (chainFrom pluginFailChain first).isSome = true := by
  decide +kernel

/-- Providing deploy, enabling or starting input never blocks, in any reachable state, with or without cancel handler. -/
theorem provide_never_blocks (handler : Bool) (s : SyncState) (hr : Reachable handler s) :
    syncStep handler s .provideDeploy ≠ .wouldBlock ∧
    syncStep handler s .provideEnabling ≠ .wouldBlock ∧
    ∀ valid, syncStep handler s (.provideStarting valid) ≠ .wouldBlock :=
  have hi := Arca.Proofs.PluginSync.reachable_inv hr
  ⟨Arca.Proofs.PluginSync.provide_not_blocked .deploy true hi, Arca.Proofs.PluginSync.provide_not_blocked .enabling true hi,
   fun valid => Arca.Proofs.PluginSync.provide_not_blocked .starting valid hi⟩

/-- A stop request (`cancelled` input) never blocks: the stop condition is accepted once (`stopInputAvailable`), so at
    most one cancel signal is sent through it and one by `run()` itself, and `signalToStep` (capacity read from the
    source) has room for both. -/
theorem provide_cancelled_never_blocks (handler : Bool) (s : SyncState) (hr : Reachable handler s) (truthy : Bool) :
    syncStep handler s (.provideCancelled truthy) ≠ .wouldBlock :=
  Arca.Proofs.PluginSync.provide_not_blocked .stop truthy (Arca.Proofs.PluginSync.reachable_inv hr)

/-- the invariant behind it: never more than two cancel signals, never more waiting in the channel than were sent -/
theorem cancel_signals_bounded (handler : Bool) (s : SyncState) (hr : Reachable handler s) :
    s.cancelSends ≤ 2 ∧ s.sigOcc ≤ s.cancelSends ∧ s.sigOcc < pluginChan_signalToStep := by
  have hi := Arca.Proofs.PluginSync.reachable_inv hr
  exact ⟨hi.sends_le, hi.sig, hi.sig_room⟩

/-- the execution that fills `signalToStep`: deploy, enable, start, then as many stop requests as the channel holds, which nobody
    drains -/
def cancelFlood : List Act :=
  [.runBegin, .provideDeploy, .recvDeploy, .deployOk, .provideEnabling, .recvEnabled true, .provideStarting true, .startOk] ++
  List.replicate pluginChan_signalToStep (.provideCancelled true)

/-- WITHOUT the once-only flag (a provider that accepts every stop condition, modelled by forgetting `stopAvail` before
    every action) the clause is FALSE: each stop request sends on `signalToStep` with a plain blocking send while
    `r.lock` is held; when the ATP client does not drain the channel, one request more than it holds blocks. -/
theorem provide_cancelled_may_block_counterexample :
    ∃ s, executeForgetting true syncInit cancelFlood = some s ∧
      syncStep true (forgetStop s) (.provideCancelled true) = .wouldBlock := by
  refine ⟨_, rfl, ?_⟩
  decide +kernel

/-- No call into the step and no move of its goroutines panics; in particular a stop request against a step WITHOUT
    cancel signal handler only cancels the context. -/
theorem provide_cancelled_never_panics (handler : Bool) (s : SyncState) (a : Act) (site : String) :
    syncStep handler s a ≠ .panic site :=
  Arca.Proofs.PluginSync.never_panics handler s a site

/-- what the stop request does instead, once the step runs: the context is cancelled, nothing is sent -/
theorem provide_cancelled_without_handler_cancels_context :
    ∃ s s', execute false syncInit
        [.runBegin, .provideDeploy, .recvDeploy, .deployOk, .provideEnabling, .recvEnabled true, .provideStarting true, .startOk]
        = some s ∧
      syncStep false s (.provideCancelled true) = .next s' ∧ s'.ctxDone = true ∧ s'.cancelSends = 0 := by
  refine ⟨_, _, rfl, rfl, ?_, ?_⟩ <;> decide

/-- Once an input was accepted, every later attempt to provide it is refused — in every state reachable afterwards. -/
theorem second_input_refused (handler : Bool) (s s1 s2 : SyncState) (_hr : Reachable handler s) :
    (syncStep handler s .provideDeploy = .next s1 → ReachableFrom handler s1 s2 →
      syncStep handler s2 .provideDeploy = .refused s2) ∧
    (syncStep handler s .provideEnabling = .next s1 → ReachableFrom handler s1 s2 →
      syncStep handler s2 .provideEnabling = .refused s2) ∧
    (∀ v v', syncStep handler s (.provideStarting v) = .next s1 → ReachableFrom handler s1 s2 →
      syncStep handler s2 (.provideStarting v') = .refused s2) ∧
    (∀ v v', syncStep handler s (.provideCancelled v) = .next s1 → ReachableFrom handler s1 s2 →
      syncStep handler s2 (.provideCancelled v') = .refused s2) :=
  ⟨Arca.Proofs.PluginSync.second_refused .deploy true true, Arca.Proofs.PluginSync.second_refused .enabling true true,
   Arca.Proofs.PluginSync.second_refused .starting, Arca.Proofs.PluginSync.second_refused .stop⟩

/-- Closing is idempotent: a Close or ForceClose that finds the step closed changes nothing and only waits. -/
theorem close_idempotent (handler : Bool) (s : SyncState) (hr : Reachable handler s) (hc : s.closed = true) :
    syncStep handler s .closeCall = .next { s with closeWaiting := s.closeWaiting + 1 } ∧
    syncStep handler s .forceCloseCall = .next { s with closeWaiting := s.closeWaiting + 1 } :=
  Arca.Proofs.PluginSync.closeCall_idem handler (Arca.Proofs.PluginSync.reachable_inv hr) hc

/-- Closing may be requested at any moment: the call is enabled in every state, and it never blocks before the wait. -/
theorem close_always_possible (handler : Bool) (s : SyncState) :
    (∃ s', syncStep handler s .closeCall = .next s') ∧ (∃ s', syncStep handler s .forceCloseCall = .next s') :=
  ⟨⟨_, rfl⟩, ⟨_, rfl⟩⟩

/-- A close call returns only when the wait group is at zero, which (invariant
    `wg = [run() not done] + [ATP goroutine alive]`) means `run()` has made its last move: no notification starts after
    any Close/ForceClose call has returned. -/
theorem no_notification_after_close_returns (handler : Bool) (s : SyncState) (hr : Reachable handler s) :
    s.lateNotif = false ∧ (0 < s.closeReturned → s.pc = .done ∧ s.atp = false) :=
  ⟨(Arca.Proofs.PluginSync.reachable_inv hr).late, (Arca.Proofs.PluginSync.reachable_inv hr).returned⟩

/-- the wait-group invariant itself -/
theorem wait_group_counts_goroutines (handler : Bool) (s : SyncState) (hr : Reachable handler s) :
    s.wg = (if s.pc = .done then 0 else 1) + (if s.atp then 1 else 0) :=
  (Arca.Proofs.PluginSync.reachable_inv hr).wg

/-- Closing always returns.  That the deployer returns, that `Execute` returns once the container was closed and that the
    closure timer fires are not hypotheses: they are the always-enabled moves `deployOk`, `atpReturn`, `timer`.  From
    every reachable state in which the context is cancelled, the internal moves alone — no further call from outside —
    reach a state where no caller waits and the wait group is zero; and EVERY internal move lowers a natural-number
    measure, so every schedule of them is finite. -/
theorem close_returns (handler : Bool) (s : SyncState) (hr : Reachable handler s) (hctx : s.ctxDone = true) :
    (∃ acts s', (∀ a ∈ acts, a ∈ internalActs) ∧ execute handler s acts = some s' ∧ s'.closeWaiting = 0 ∧ s'.wg = 0) ∧
    (∀ a ∈ internalActs, ∀ s', syncStep handler s a = .next s' → closeRank s' < closeRank s) := by
  have hi := Arca.Proofs.PluginSync.reachable_inv hr
  exact ⟨Arca.Proofs.PluginSync.closing_terminates handler hi hctx,
    fun a ha s' hs => Arca.Proofs.PluginSync.internal_decreases ha hs hi⟩

/-- a close request puts the step into exactly that situation -/
theorem close_cancels_context (handler : Bool) (s s' : SyncState) :
    (syncStep handler s .closeCall = .next s' → s'.ctxDone = true ∧ s'.closed = true) ∧
    (syncStep handler s .forceCloseCall = .next s' → s'.ctxDone = true ∧ s'.closed = true) := by
  constructor <;> rintro ⟨⟩ <;> exact ⟨rfl, rfl⟩

end Plugin

/-! Not stated for the foreach provider: "closing returns" and the reachability form of "a second input is refused"; its
`syncStep` is not run by the driver (only `foreachPaths` / `foreachEdges` are). -/

section Foreach
open Arca.Model.ForeachStep

/-- FULL STRENGTH: every trace the foreach provider can emit is a legal life story against its lifecycle exactly as
    declared (since `closed` is declared as a next stage of `execute`). -/
theorem foreach_traces_legal : ∀ p ∈ foreachPaths, foreachAccepts p.2 = true := by decide +kernel

/-- every transition the foreach provider makes is declared -/
theorem foreach_all_transitions_declared :
    ∀ p ∈ foreachPaths, ∀ e ∈ Arca.Model.PluginStep.LifecycleSpec.transitions p.2, e ∈ foreachEdges := by
  decide +kernel

/-- Against the lifecycle table without the edge `execute -> closed` (`foreachStagesBeforeExecuteClosed`) the property is
    false: closed while waiting for the items the step goes `execute -> closed` (`runOnInput` -> `closedEarly`), and that
    table declares `closed` as a next stage of `enabling` only. -/
theorem foreach_traces_legal_counterexample_old_lifecycle :
    ∃ p ∈ foreachPaths, foreachAcceptsBeforeExecuteClosed p.2 = false :=
  ⟨("closed-waiting-execute", fpath [enterExecute, closedEarly "outputs" true]), .tail _ (.tail _ (.head _)),
   by decide +kernel⟩

/-- the declared lifecycle is that table plus exactly that one edge, with a completion dependency (an unresolvable
    `execute` never makes `closed` unresolvable) -/
theorem foreach_lifecycle_differs_by_execute_closed :
    Arca.Gen.foreachStages = foreachStagesBeforeExecuteClosed.map (fun r =>
      if r.id = "execute" then { r with next := ("closed", Arca.Model.Dep.cand) :: r.next } else r) := by
  decide +kernel

/-- exactly one completion is reported on EVERY path of the foreach `run()` -/
theorem foreach_exactly_one_completion :
    ∀ p ∈ foreachPaths, (p.2.filter Arca.Model.PluginStep.LifecycleSpec.isComplete).length = 1 := by
  decide +kernel

/-- the same on the skeleton: whenever `run()` has ended it has reported exactly one completion, never more before -/
theorem foreach_run_ends_with_one_completion (s : SyncState) (hr : Reachable s) :
    s.completions ≤ 1 ∧ (s.pc = .done → s.completions = 1) := by
  have h := (Arca.Proofs.PluginForeach.reachable_inv hr).compl
  constructor
  · rw [h]; split <;> decide
  · intro hd
    rw [h, hd]
    decide +kernel

/-- Providing input to the foreach step never blocks and never sends on a closed channel: `Close` closes
    `executeInput` under `r.lock`, which a provider holds from its `closed` check to its send. -/
theorem foreach_provide_never_blocks (s : SyncState) (hr : Reachable s) :
    (syncStep s .provideEnabling ≠ .wouldBlock ∧ syncStep s .provideExecuteSend ≠ .wouldBlock ∧
      ∀ v, syncStep s (.provideExecuteBegin v) ≠ .wouldBlock) ∧
    (∀ a site, syncStep s a ≠ .panic site) := by
  have hi := Arca.Proofs.PluginForeach.reachable_inv hr
  exact ⟨Arca.Proofs.PluginForeach.provide_not_blocked hi, Arca.Proofs.PluginForeach.never_panics hi⟩

/-- the close of `executeInput` waits for a provider that is between its check and its send -/
theorem foreach_close_waits_for_pending_provider (s : SyncState) (hp : s.provPending = true) :
    syncStep s .closeReturnFirst = .disabled := by
  simp [syncStep, hp]

/-- No notification starts after a Close/ForceClose call has returned, and the wait group counts `run()` from the
    moment `Start` returns (`rs.wg.Add(1)` before `go rs.run()`) — in EVERY reachable state. -/
theorem foreach_no_notification_after_close_returns (s : SyncState) (hr : Reachable s) :
    s.lateNotif = false ∧ (0 < s.closeReturned → s.pc = .done) ∧ s.wg = (if s.pc = .done then 0 else 1) :=
  ⟨(Arca.Proofs.PluginForeach.reachable_inv hr).late, (Arca.Proofs.PluginForeach.reachable_inv hr).returned,
   (Arca.Proofs.PluginForeach.reachable_inv hr).wg⟩

/-- a Close right after Start cannot return before `run()` has run -/
theorem foreach_close_right_after_start_waits :
    ∃ s, execute syncInit [.closeCall] = some s ∧ syncStep s .closeReturnFirst = .disabled := by
  refine ⟨_, rfl, ?_⟩
  decide +kernel

/-- closing is idempotent -/
theorem foreach_close_idempotent (s : SyncState) (hc : s.closed = true) :
    syncStep s .closeCall = .next { s with closeWaiting := s.closeWaiting + 1 } := by
  simp [syncStep, hc]

/-- while the step is not closed a second enabling / execute input is refused … -/
theorem foreach_second_input_refused_partial (s : SyncState) (hnc : s.closed = false) (hl : s.provPending = false) :
    (s.enabledAvail = true → syncStep s .provideEnabling = .refused s) ∧
    (s.execAvail = true → syncStep s (.provideExecuteBegin true) = .refused s) := by
  constructor <;> intro h <;> simp [syncStep, hnc, hl, h]

/-- … once it is closed every input — first, second, valid or not — is dropped with a nil error -/
theorem foreach_input_after_close_ignored_counterexample (s : SyncState) (hc : s.closed = true)
    (hl : s.provPending = false) (v : Bool) :
    syncStep s .provideEnabling = .ignored s ∧ syncStep s (.provideExecuteBegin v) = .ignored s := by
  constructor <;> simp [syncStep, hc, hl]

end Foreach

section NonVacuity
open Arca.Model.PluginStep

/-- the skeleton does run a step to completion and lets a close call return -/
example : (execute true syncInit
    [.runBegin, .provideDeploy, .recvDeploy, .deployOk, .provideEnabling, .recvEnabled true, .provideStarting true, .startOk,
     .atpReturn, .recvResult, .runExit, .closeCall, .closeReturn]).map (fun s => (s.pc, s.wg, s.closeReturned, s.lateNotif))
    = some (.done, 0, 1, false) := by decide +kernel

/-- the strict acceptor does accept something (a step closed before it was deployed) and rejects a double completion -/
example : pluginAccepts [] (path [deployStageEntry, closedEarly "enabling" true]) = true := by decide +kernel
example : pluginAcceptsRelaxed ["success"]
    (path (upToRunning ++ [runResultOk "success", completeStep "outputs" (some "success")])) = false := by decide +kernel
example : pluginAcceptsRelaxed ["success"] (path (upToRunning ++ [runResultOk "nope"])) = false := by decide +kernel

end NonVacuity

end Arca.Props.C12
