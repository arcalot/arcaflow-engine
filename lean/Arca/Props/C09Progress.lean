/-
C09 — what counts as progress for the fallback deadlock detector, read from the regenerated control skeletons
(`Arca.Gen.Skel.*`: token lists extracted from the source on every run).  The property says that the engine reports "no
step can make progress" only when that is so, for every placement of delays, including a delay at a goroutine start and
one between being handed an input and picking it up; two facts of the source carry that for those windows: a goroutine
that has been launched and has not run yet counts (`starting`), and the foreach provider hands its items over as `running`.  The schedule sweeps
(`vharness sched`) exhibit the failing runs when one of these facts is edited away; the theorems name the fact.
-/
import Arca.Model.SkelUtil
import Arca.Proofs.PluginState
import Arca.Gen.Skel
import Arca.Gen.Consts
import Arca.Proofs.SkelUtil

namespace Arca.Props.C09
open Arca.Model.Skel Arca.Gen.Skel Arca.Model.PluginState

/-- on character lists, so that it reduces in the kernel -/
def infixOf (p : List Char) : List Char → Bool
  | [] => p.isEmpty
  | c :: t => p.isPrefixOf (c :: t) || infixOf p t

def mentions (s : String) : String → Bool := fun t => infixOf s.toList t.toList

/-- the report of `ErrNoMorePossibleSteps` -/
def isNoMoreStepsReport : String → Bool := startsWith "call:l.reportError(&ErrNoMorePossibleSteps"

def beforeReport : List String :=
  workflow_workflow_loopState_checkForDeadlocks.takeWhile (fun t => !isNoMoreStepsReport t)

/-- `checkForDeadlocks` reports "no more possible steps" only behind a purely conjunctive guard that requires that no step
    is `starting` and that no step is `running`: a step in state `starting` counts as progress.  (No block is closed and
    no `else` is entered in front of the report, so every `if(` in front of it encloses it.) -/
theorem starting_counts_as_progress :
    has isNoMoreStepsReport workflow_workflow_loopState_checkForDeadlocks = true ∧
    (beforeReport.filter (startsWith "if(")).all (fun g => !mentions "||" g) = true ∧
    has (fun g => startsWith "if(" g && mentions "counters.starting == 0" g && mentions "counters.running == 0" g)
      beforeReport = true ∧
    has (startsWith "}") beforeReport = false ∧ has (startsWith "else") beforeReport = false := by
  simp only [beforeReport, isNoMoreStepsReport, mentions, Arca.Proofs.SkelUtil.startsWith_eq_bytes,
    Arca.Proofs.SkelUtil.toList_eq_chars]
  decide +kernel

/-- a goroutine held at its very start: the step is `starting` for as long as the hold lasts, and one poll among the
    `retries + 1` that sees it stops the detector -/
theorem starting_step_stops_detector (polls : List (List RState)) (i : Nat) (p : List RState)
    (hi : i ≤ Arca.Gen.detectorRetries) (hp : polls[i]? = some p) (hs : RState.starting ∈ p) :
    detectorFires Arca.Gen.detectorRetries polls = false :=
  Arca.Proofs.PluginState.busy_poll_stops _ polls i p hi hp (List.all_eq_false.mpr ⟨_, hs, by decide⟩)

/-- the foreach provider's `ProvideStageInput`: the whole handler is one critical section of the step lock (locked first,
    unlocked only by the deferred call); in the execute arm a step that is waiting for its items is moved to `running`
    before the items are put on the channel. -/
theorem foreach_items_handed_over_as_running :
    firstBefore (isTok "call:r.lock.Lock()") (startsWith "switch(") step_foreach_provider_runningStep_ProvideStageInput = true ∧
    adjacent (isTok "defer{") (isTok "call:r.lock.Unlock()") step_foreach_provider_runningStep_ProvideStageInput = true ∧
    count (isTok "call:r.lock.Unlock()") step_foreach_provider_runningStep_ProvideStageInput = 1 ∧
    adjacent
      (fun g => startsWith "if(" g && mentions "r.currentState == step.RunningStepStateWaitingForInput" g &&
        mentions "r.currentStage == StageIDExecute" g && !mentions "||" g)
      (isTok "set:r.currentState=step.RunningStepStateRunning") step_foreach_provider_runningStep_ProvideStageInput = true ∧
    firstBefore (isTok "set:r.currentState=step.RunningStepStateRunning") (isTok "send:r.executeInput")
      step_foreach_provider_runningStep_ProvideStageInput = true ∧
    firstBefore (isTok "case(string(StageIDExecute)):") (isTok "set:r.currentState=step.RunningStepStateRunning")
      step_foreach_provider_runningStep_ProvideStageInput = true ∧
    firstBefore (isTok "send:r.executeInput") (isTok "case(string(StageIDOutputs)):")
      step_foreach_provider_runningStep_ProvideStageInput = true := by
  simp only [mentions, Arca.Proofs.SkelUtil.startsWith_eq_bytes, Arca.Proofs.SkelUtil.toList_eq_chars]
  decide +kernel

/-- `run()` of the foreach provider does not write `waiting_for_input` once the sub-workflows are under way: `processInput`
    runs them first and the only state it writes afterwards is `running` / `finished` -/
theorem foreach_loop_never_waits_while_working :
    firstBefore (startsWith "call:r.executeSubWorkflows(") (startsWith "set:r.currentState=")
      step_foreach_provider_runningStep_processInput = true ∧
    has (isTok "set:r.currentState=step.RunningStepStateWaitingForInput") step_foreach_provider_runningStep_processInput = false ∧
    has (isTok "set:r.currentState=step.RunningStepStateWaitingForInput") step_foreach_provider_runningStep_runOnInput = false := by
  simp only [Arca.Proofs.SkelUtil.startsWith_eq_bytes]
  decide +kernel

example : mentions "counters.starting == 0" "if(counters.starting == 0 && counters.running == 0){" = true := by
  simp only [mentions, Arca.Proofs.SkelUtil.toList_eq_chars]
  decide +kernel
example : mentions "counters.starting == 0" "if(counters.running == 0 && !hasReadyNodes){" = false := by
  simp only [mentions, Arca.Proofs.SkelUtil.toList_eq_chars]
  decide +kernel
/-- four idle polls fire the detector; the same polls with a `starting` step in the third do not -/
example : detectorFires Arca.Gen.detectorRetries [[.waiting], [.finished], [.waiting], [.waiting]] = true := by decide
example : detectorFires Arca.Gen.detectorRetries [[.waiting], [.finished], [.waiting, .starting], [.waiting]] = false := by decide

end Arca.Props.C09
