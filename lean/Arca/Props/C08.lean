/-
C08 — accepted workflows are type-sound: every value matches its declared schema.

This file holds the STATIC part for the engine-generated outputs (fact class G9): what the plugin and foreach providers
produce when they complete a stage on their own (crashed, deploy_failed, closed, disabled, enabling, starting and the
foreach outputs) conforms to the object schema they declare for that stage output.  The theorems are stated over the
tables REGENERATED from the source on every run (`Arca.Gen.declaredRows`, `Arca.Gen.producedRows`), so renaming a
produced key, dropping a required one, changing a Go field's json tag or type, or changing the declared schema breaks
`generated_outputs_conform` itself (the defects it catches existed: foreach produced `messages` where `errors` is
declared; `crashed.error` / `deploy_failed.error` were stored as Go structs).

Modelled: objects at the level of property names, required flags and the head constructor of each property type against
the static kind of the Go expression that produces the value.
Modelling assumption: a struct-shaped output reaches the data model as the map of its JSON fields.  This is what
`workflow.serializedOutput` does; `Arca.Model.serializedOutput` mirrors it and the pin
`Arca.Pins.workflow_workflow__serializedOutput` (restated below) ties the mirror to the source.
Not modelled (validated only dynamically, `vharness typed`, with the real `Unserialize`): element types of lists and
maps (`list<*>`, `map<int,string>`), outputs whose data comes from the plugin or the sub-workflows (`*` rows), stage
inputs and the returned workflow output.
-/
import Arca.Proofs.Outputs
import Arca.Gen.Outputs
import Arca.Expected.Outputs
import Arca.Pins.workflow_workflow__serializedOutput
import Arca.Props.C08Infer   -- so that the module of C08 carries the obligations of C08Infer too (lib/props_c08.py)

namespace Arca.Props.C08
open Arca.Model Arca.Proofs.Outputs

/-- the declared output objects extracted on this run are the hand-reviewed ones -/
theorem declared_outputs_pinned : Arca.Gen.declaredRows = Arca.Expected.declaredRows := by rfl

/-- the producing sites (function, stage, output id, shape) extracted on this run are the hand-reviewed ones -/
theorem produced_outputs_pinned : Arca.Gen.producedRows = Arca.Expected.producedRows := by rfl

/-- `completeStep` / `transitionStageWithOutput` of both providers forward their output parameters unchanged and report
    the stage held before the update -/
theorem output_helpers_pinned : Arca.Gen.outputHelpers = Arca.Expected.outputHelpers := by rfl

/-- the run loop's `serializedOutput` has the control skeleton `Arca.Model.serializedOutput` was written against -/
theorem serializedOutput_pinned :
    Arca.Gen.Skel.workflow_workflow__serializedOutput = Arca.Expected.Skel.workflow_workflow__serializedOutput :=
  Arca.Pins.workflow_workflow__serializedOutput

/-- what the model of `serializedOutput` does: a Go struct becomes the map of its fields, anything else is kept -/
theorem serializedOutput_model (n : String) (kvs : List (String × Val)) :
    serializedOutput (.gostruct n kvs) = .map kvs ∧ serializedOutput (.map kvs) = .map kvs := ⟨rfl, rfl⟩

/-- Every site where a provider completes a stage with an output of its own making produces a shape that conforms to
    the object declared for exactly that provider, stage and output id: every produced key is a declared property of a
    compatible kind and every required property is always produced.  Rows whose data comes from the plugin are excused
    here (`dynamic_outputs_are_plugin_declared`) and validated dynamically. -/
theorem generated_outputs_conform :
    ∀ r ∈ Arca.Gen.producedRows, r.shape.isDynamic = true ∨
      ∃ d ∈ Arca.Gen.declaredRows, d.provider = r.provider ∧ d.stage = r.stage ∧ d.output = r.output ∧
        conformsShape d.props r.shape = true := by
  rw [← all_rowConforms_iff]
  decide +kernel

/-- a site that passes plugin data on does so in a stage whose outputs are the plugin's own (`stepSchema.Outputs()`) -/
theorem dynamic_outputs_are_plugin_declared :
    Arca.Gen.producedRows.all (dynamicRowDeclared Arca.Gen.declaredRows) = true := by decide +kernel

/-- each declared engine-generated output has at least one producing site: the list of exceptions is empty -/
theorem every_declared_engine_output_is_produced_somewhere :
    unproduced Arca.Gen.declaredRows Arca.Gen.producedRows = [] := by decide +kernel

/-- no site produces an output id that the stage does not declare: the list of exceptions is empty -/
theorem every_produced_output_is_declared :
    undeclared Arca.Gen.declaredRows Arca.Gen.producedRows = [] := by decide +kernel

/-- The same at the level of values: whatever value a non-dynamic site hands to the stage-change handler (a map for a map
    literal, a Go struct for a struct literal), what the run loop stores for it is accepted by the declared object. -/
theorem generated_values_accepted :
    ∀ r ∈ Arca.Gen.producedRows, r.shape.isDynamic = false → ∀ v : Val, v.hasShape r.shape = true →
      ∃ d ∈ Arca.Gen.declaredRows, d.provider = r.provider ∧ d.stage = r.stage ∧ d.output = r.output ∧
        objectAccepts d.props (serializedOutput v) = true := by
  intro r hr hdyn v hv
  rcases generated_outputs_conform r hr with h | ⟨d, hd, hp, hs, ho, hc⟩
  · simp [hdyn] at h
  · exact ⟨d, hd, hp, hs, ho, produced_value_accepted hc hv⟩

/-- the declared properties of foreach `failed.error` -/
def foreachErrorProps : List Prop' := [
  { name := "data", kind := .map, ty := "map<int,*>", required := true },
  { name := "errors", kind := .map, ty := "map<int,string>", required := true }]

/-- F4 (fixed by 6058e27): a site producing the key `messages` where `errors` is declared does not conform -/
theorem messages_key_does_not_conform :
    conformsShape foreachErrorProps (.mapLit [
      { key := "data", kind := .map, src := "dataMap", always := true },
      { key := "messages", kind := .map, src := "errors", always := true }]) = false := by decide +kernel

/-- dropping a required key does not conform either -/
theorem missing_required_key_does_not_conform :
    conformsShape foreachErrorProps (.mapLit [
      { key := "data", kind := .map, src := "dataMap", always := true }]) = false := by decide +kernel

/-- a value of the wrong kind does not conform -/
theorem wrong_kind_does_not_conform :
    conformsShape [{ name := "enabled", kind := .bool, ty := "bool", required := true }] (.mapLit [
      { key := "enabled", kind := .string, src := "\"true\"", always := true }]) = false := by decide +kernel

/-- F3 (fixed by 12879a4): without `serializedOutput` a struct-shaped output is not accepted by its object schema,
    with it it is -/
theorem struct_output_needs_serialization :
    let declared : List Prop' := [{ name := "output", kind := .string, ty := "string", required := true }]
    let v : Val := .gostruct "Crashed" [("output", .str "boom")]
    objectAccepts declared v = false ∧ objectAccepts declared (serializedOutput v) = true := by decide +kernel

example : Arca.Gen.producedRows.length = 15 ∧ (Arca.Gen.producedRows.filter (fun r => !r.shape.isDynamic)).length = 14 := by decide +kernel
example : Arca.Gen.declaredRows.length = 12 ∧ (Arca.Gen.declaredRows.filter (fun d => !d.dynamic)).length = 11 := by decide +kernel
example : (Val.map [("cancelled", .bool false), ("close_requested", .bool true)]).hasShape
    (.mapLit [{ key := "cancelled", kind := .bool, src := "", always := true },
              { key := "close_requested", kind := .bool, src := "", always := true }]) = true := by decide +kernel

end Arca.Props.C08
