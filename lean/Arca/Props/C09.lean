/-
C09 — the result does not depend on how fast goroutines are scheduled; in particular the engine reports that no step
can make progress only when that is really so.  Here: what a plugin step tells the fallback deadlock detector
(`checkForDeadlocks`), on the model `Arca.Model.PluginState` (where the five windows of the raw state are named).
Theorems that do not mention a value of `marks` (the loop settles the remaining stages at completion: F11) hold for both.
`C09Progress` (what counts as progress, read from the skeletons) is imported so that the module holds all of C09.
-/
import Arca.Proofs.PluginState
import Arca.Props.C09Progress
import Arca.Gen.Skel

namespace Arca.Props.C09
open Arca.Model.PluginState

/-- `run()` up to the blocking select of deployStage (no deploy input yet) -/
def toDeployWait : List Act := [.internal, .deliver, .internal, .internal, .internal]
/-- deploy input given first, deployed, up to the lock region of enableStage (not yet executed) -/
def toEnableLock : List Act :=
  [.provideDeploy, .internal, .deliver, .internal, .internal, .internal, .deployOk, .internal]
/-- .. parked in enableStage -/
def toEnableWait : List Act := toEnableLock ++ [.internal, .deliver, .internal]
/-- .. through enableStage with `enabled = true`, up to the non-blocking receive of startStage (not yet executed) -/
def toStartTry : List Act := toEnableWait ++ [.provideEnabling true, .recv, .deliverFailure]
/-- a failed deployment up to the pending `OnStepComplete` -/
def toFailedCompletion : List Act :=
  [.provideDeploy, .internal, .deliver, .internal, .internal, .internal, .deployFail, .internal, .deliver, .internal, .internal]

/-- deploy race: input provided between the non-blocking `select` (default branch) and the lock region that writes
    `waiting_for_input`; `provideDeployInput` saw `running` and did not flip the state -/
theorem raw_state_window_deploy_race (marks : Bool) :
    ∃ s, execute marks init [.internal, .deliver, .internal, .internal, .provideDeploy, .internal] = some s ∧
      s.stage = .deploy ∧ s.state = .waiting ∧ s.deployAvail = true ∧ Quiescent s = false ∧ countsAs s = .running := by
  cases marks <;> (refine ⟨_, rfl, ?_, ?_, ?_, ?_, ?_⟩ <;> decide +kernel)

/-- enable window: enableStage writes `waiting_for_input` although the enabling input is already available, and then reports the
    stage change before it even looks at the channel -/
theorem raw_state_window_enabling (marks : Bool) :
    ∃ s, execute marks init (toEnableLock ++ [.provideEnabling true, .internal]) = some s ∧
      s.state = .waiting ∧ s.stage = .enabling ∧ s.enabledAvail = true ∧ s.pc = .eCb ∧
      Quiescent s = false ∧ countsAs s = .running := by
  cases marks <;> (refine ⟨_, rfl, ?_, ?_, ?_, ?_, ?_, ?_⟩ <;> decide +kernel)

/-- enable window, with no input yet: the report `deploy -> enabling` is in flight (`CurrentStage() != reportedStages`) -/
theorem raw_state_window_enabling_report_in_flight (marks : Bool) :
    ∃ s, execute marks init (toEnableLock ++ [.internal]) = some s ∧
      s.state = .waiting ∧ s.enabledAvail = false ∧ s.pc = .eCb ∧ s.reportedStage = some .deploy ∧
      reportedState s = .waiting ∧ countsAs s = .running := by
  cases marks <;> (refine ⟨_, rfl, ?_, ?_, ?_, ?_, ?_, ?_⟩ <;> decide +kernel)

/-- enable window: enabling input provided while `run()` is parked in enableStage: `provideEnablingInput` leaves the state alone -/
theorem raw_state_window_enabling_provided_while_parked (marks : Bool) :
    ∃ s, execute marks init (toEnableWait ++ [.provideEnabling true]) = some s ∧
      s.state = .waiting ∧ s.pc = .eWait ∧ s.enabledOcc = true ∧ Quiescent s = false ∧ countsAs s = .running := by
  cases marks <;> (refine ⟨_, rfl, ?_, ?_, ?_, ?_, ?_⟩ <;> decide +kernel)

/-- start window: startStage found no run input in its non-blocking receive, the input arrives, and
    `transitionStageWithOutput(starting, waiting_for_input)` writes `waiting_for_input` afterwards -/
theorem raw_state_window_starting (marks : Bool) :
    ∃ s, execute marks init (toStartTry ++ [.internal, .provideStarting, .internal]) = some s ∧
      s.state = .waiting ∧ s.stage = .starting ∧ s.runAvail = true ∧ s.pc = .transCb .starting ∧
      Quiescent s = false ∧ countsAs s = .running := by
  cases marks <;> (refine ⟨_, rfl, ?_, ?_, ?_, ?_, ?_, ?_⟩ <;> decide +kernel)

/-- start window: run input provided while `run()` is parked in startStage: `provideStartingInput` leaves the state alone -/
theorem raw_state_window_starting_provided_while_parked (marks : Bool) :
    ∃ s, execute marks init (toStartTry ++ [.internal, .internal, .deliver, .internal, .internal, .provideStarting]) = some s ∧
      s.state = .waiting ∧ s.pc = .sWait ∧ s.runOcc = true ∧ Quiescent s = false ∧ countsAs s = .running := by
  cases marks <;> (refine ⟨_, rfl, ?_, ?_, ?_, ?_, ?_⟩ <;> decide +kernel)

/-- completion window: completeStep writes `finished` before `OnStepComplete` is processed -/
theorem raw_state_window_completion_in_flight (marks : Bool) :
    ∃ s, execute marks init toFailedCompletion = some s ∧
      s.state = .finished ∧ s.pc = .complCb .deployFailed ∧ s.completed = false ∧ Quiescent s = false ∧
      countsAs s = .running := by
  cases marks <;> (refine ⟨_, rfl, ?_, ?_, ?_, ?_, ?_⟩ <;> decide +kernel)

/-- closing window: a stop condition or Close has cancelled the context, `run()` is parked and has not yet taken its
    `ctx.Done()` branch: the raw state still says `waiting_for_input` (counted as running: be7655c) -/
theorem raw_state_window_closing (marks : Bool) :
    ∃ s, execute marks init (toEnableWait ++ [.cancel]) = some s ∧
      s.state = .waiting ∧ s.ctxDone = true ∧ s.enabledAvail = false ∧ Quiescent s = false ∧ countsAs s = .running := by
  cases marks <;> (refine ⟨_, rfl, ?_, ?_, ?_, ?_, ?_⟩ <;> decide +kernel)

/-- the closing window in general (a theorem about every reachable state, not a witness): raw `waiting_for_input` with
    the context cancelled is counted as running, the step is not at rest and
    owes the report of its completion (`closedEarly`) -/
theorem raw_state_window_closing_owes_completion (marks : Bool) (s : St) (hr : Reachable marks s) (hw : s.state = .waiting)
    (hctx : s.ctxDone = true) : countsAs s = .running ∧ owesCheck s = true ∧ Quiescent s = false := by
  have hi := Arca.Proofs.PluginState.reachable_at hr
  have h := Arca.Proofs.PluginState.raw_waiting_ctx_owes hi hw hctx
  exact ⟨h.1, h.2, Arca.Proofs.PluginState.owes_not_quiescent hi h.2⟩

/-- so the statement about the RAW state — `r.state ∈ {waiting, finished}` ⇒ quiescent — is false -/
theorem raw_state_unsound (marks : Bool) :
    ¬ (∀ s, Reachable marks s → (s.state = .waiting ∨ s.state = .finished) → Quiescent s = true) := by
  intro h
  obtain ⟨s, hex, hw, _, _, _, hq, _⟩ := raw_state_window_enabling marks
  have := h s (execute_reachable Reachable.init _ s hex) (Or.inl hw)
  rw [hq] at this
  cases this

/-- .. and the windows `InWindow` are all there is: outside them the raw state is sound -/
theorem raw_state_windows_exhaustive (marks : Bool) (s : St) (hr : Reachable marks s)
    (hw : s.state = .waiting ∨ s.state = .finished) (hout : InWindow s = false) : Quiescent s = true := by
  rcases Arca.Proofs.PluginState.raw_classified (Arca.Proofs.PluginState.reachable_at hr) hw with h | h
  · exact h
  · rw [hout] at h
    cases h

/-- raw `waiting_for_input` in stage `deploy` with the input provided: only the deploy race, or being closed.
    (`_partial`: of the RAW state the first half of `deploy_wait_is_sound` holds only outside these two places.) -/
theorem raw_deploy_wait_partial (marks : Bool) (s : St) (hr : Reachable marks s) (hst : s.stage = .deploy)
    (hw : s.state = .waiting) (ha : s.deployAvail = true) : inDeployRace s = true ∨ s.pc = .failedLock .closed :=
  Arca.Proofs.PluginState.deploy_waiting_provided (Arca.Proofs.PluginState.reachable_at hr) hst hw ha

/-- what is counted as waiting has a context that is not cancelled (be7655c) -/
theorem counted_waiting_not_cancelled (s : St) (hc : countsAs s = .waiting) : s.ctxDone = false :=
  (Arca.Proofs.PluginState.countsAs_waiting.1 hc).2.2.1

/-- `State()` never answers `waiting_for_input` in stage `deploy` once the deploy input has been provided; and a step
    COUNTED as waiting in stage `deploy` is parked on the empty channel, with its context not cancelled. -/
theorem deploy_wait_is_sound (marks : Bool) (s : St) (hr : Reachable marks s) (hst : s.stage = .deploy) :
    (reportedState s = .waiting → s.deployAvail = false) ∧
    (countsAs s = .waiting → Quiescent s = true ∧ s.deployAvail = false ∧ s.ctxDone = false) := by
  refine ⟨?_, ?_⟩
  · intro h
    cases hd : s.deployAvail with
    | false => rfl
    | true =>
      simp only [reportedState, currentStageInputAvailable, hst, hd] at h
      split at h
      · cases h
      · rename_i hn
        exact absurd ⟨h, Or.inl trivial⟩ hn
  · intro hc
    exact Arca.Proofs.PluginState.deploy_counts_waiting (Arca.Proofs.PluginState.reachable_at hr) hst hc

/-- FULL STRENGTH, no hypothesis: a step counted as waiting is parked on an empty channel with no report in flight
    (`Quiescent`), or is returning from the handler that has just processed its report and will park without calling the
    handler again or finding an input (`Settled`); its context is not cancelled. -/
theorem detector_sound_waiting (marks : Bool) (s : St) (hr : Reachable marks s) (hc : countsAs s = .waiting) :
    Settled s = true ∧ s.ctxDone = false :=
  ⟨(Arca.Proofs.PluginState.counts_waiting_settled (Arca.Proofs.PluginState.reachable_at hr) hc).1,
   counted_waiting_not_cancelled s hc⟩

/-- what `Settled` means operationally: the only moves left are silent local ones (no handler call, no receive, no
    answer of the deployer or plugin awaited), and they stay settled until the step is quiescent -/
theorem settled_is_silent (marks : Bool) (s s' : St) (a : Act) (hs : Settled s = true) (ha : a ∈ progressActs)
    (hstep : step marks s a = some s') : a = .internal ∧ Settled s' = true :=
  have h := Arca.Proofs.PluginState.settled_step hs ha hstep
  ⟨h.1, h.2.1⟩

/-- whatever the loop does at completion: outside the failure tail a step counted as finished is settled -/
theorem detector_sound_finished_partial (marks : Bool) (s : St) (hr : Reachable marks s) (hc : countsAs s = .finished)
    (hft : inFailureTail s = false) : Settled s = true :=
  (Arca.Proofs.PluginState.counts_finished (Arca.Proofs.PluginState.reachable_at hr) hc).resolve_right
    fun h => by simp [hft] at h

/-- FULL STRENGTH with the marking: a step counted as finished is `Harmless` — settled, or in the failure tail with every
    `OnStepStageFailure` still to come being about a stage `markRemainingStagesUnresolvable` has already settled. -/
theorem detector_sound_finished (s : St) (hr : Reachable true s) (hc : countsAs s = .finished) : Harmless s = true :=
  Arca.Proofs.PluginState.counts_finished_harmless (Arca.Proofs.PluginState.reachable_at hr) hc

/-- what `Harmless` means operationally: every remaining action of the step is a silent local move or a failure
    notification (about settled stages), none of them changes the loop-side record, and the state stays harmless -/
theorem harmless_is_inert (marks : Bool) (s s' : St) (a : Act) (hh : Harmless s = true) (ha : a ∈ progressActs)
    (hstep : step marks s a = some s') :
    (a = .internal ∨ a = .deliverFailure) ∧ Harmless s' = true ∧ loopView s' = loopView s :=
  Arca.Proofs.PluginState.harmless_step hh ha hstep

/-- Full strength for the code with both repairs: counted as waiting or finished ⇒ nothing the step
    still does can change the loop's view -/
theorem detector_sound (s : St) (hr : Reachable true s) (hc : countsAs s = .waiting ∨ countsAs s = .finished) :
    Harmless s = true := by
  rcases hc with hc | hc
  · have := (detector_sound_waiting true s hr hc).1
    simp [Harmless, this]
  · exact detector_sound_finished s hr hc

/-- WITHOUT the marking (`marks = false`, the loop before the F11 repair) this is false: once `OnStepComplete` has been
    processed the step counts as finished, but `markStageFailures` / `markNotClosable` still have `OnStepStageFailure`
    notifications to deliver for stages the loop has not settled (here: after a failed deployment). -/
theorem detector_sound_counterexample_failure_tail :
    ∃ s, execute false init (toFailedCompletion ++ [.deliver]) = some s ∧
      countsAs s = .finished ∧ s.ctxDone = false ∧ inFailureTail s = true ∧ Quiescent s = false ∧ Harmless s = false ∧
      s.tailFails = [.enabling, .disabled, .starting, .running, .outputs, .closed] ∧ s.settledStages = [] ∧
      (∃ s1 s2, step false s .internal = some s1 ∧ step false s1 .deliverFailure = some s2) := by
  refine ⟨_, rfl, ?_, ?_, ?_, ?_, ?_, ?_, ?_, _, _, rfl, rfl⟩ <;> decide

theorem detector_sound_counterexample_without_marking :
    ¬ (∀ s, Reachable false s → (countsAs s = .waiting ∨ countsAs s = .finished) → Harmless s = true) := by
  intro h
  obtain ⟨s, hex, hc, _, _, _, hh, _⟩ := detector_sound_counterexample_failure_tail
  have := h s (execute_reachable Reachable.init _ s hex) (Or.inr hc)
  rw [hh] at this
  cases this

/-- the same trace WITH the marking: the six stages are settled when the completion is processed -/
theorem failure_tail_settled_with_marking :
    ∃ s, execute true init (toFailedCompletion ++ [.deliver]) = some s ∧
      countsAs s = .finished ∧ inFailureTail s = true ∧ Harmless s = true ∧
      s.finishedStages = [.deploy, .deployFailed] ∧
      s.settledStages = [.enabling, .disabled, .starting, .running, .outputs, .crashed, .closed] := by
  refine ⟨_, rfl, ?_, ?_, ?_, ?_, ?_⟩ <;> decide

/-- The tie of `marks = true` to the source: the regenerated control skeleton of `onStageComplete` contains the call of
    `markRemainingStagesUnresolvable` (the F11 repair).  This theorem fails on a tree without that repair. -/
theorem loop_marks_remaining_stages_at_completion :
    Arca.Gen.Skel.workflow_workflow_loopState_onStageComplete.contains "call:l.markRemainingStagesUnresolvable(stepID)" = true := by
  decide +kernel

/-- per program point: wherever the refinement is at work, `run()` owes a report whose processing runs the check … -/
theorem refinement_owes_check (marks : Bool) (s : St) (hr : Reachable marks s) (href : Refined s = true) :
    owesCheck s = true :=
  Arca.Proofs.PluginState.refined_owes (Arca.Proofs.PluginState.reachable_at hr) href

/-- … a step that owes one is not at rest, and every action (of the step, the plugin side or the engine) either IS the
    processing of such a report — an `OnStageChange` with a previous stage or the `OnStepComplete`, never only an
    `OnStepStageFailure` — or leaves it owed. -/
theorem owed_check_is_delivered_or_kept (marks : Bool) (s s' : St) (a : Act) (hr : Reachable marks s)
    (ho : owesCheck s = true) (hstep : step marks s a = some s') :
    Quiescent s = false ∧ ((a = .deliver ∧ checkingReportPending s = true) ∨ owesCheck s' = true) :=
  ⟨Arca.Proofs.PluginState.owes_not_quiescent (Arca.Proofs.PluginState.reachable_at hr) ho,
   Arca.Proofs.PluginState.owes_step ho hstep⟩

/-- over schedules: from a state that owes a check, every run to rest — whatever the engine and the plugin side do in
    between — contains the processing of a checking report after which the refinement is no longer at work -/
theorem owed_check_runs (marks : Bool) : ∀ (acts : List Act) (s t : St), Reachable marks s → owesCheck s = true →
    execute marks s acts = some t → Quiescent t = true → hasFaithfulCheck marks s acts = true := by
  intro acts
  induction acts with
  | nil =>
    intro s t hr ho hex hq
    simp [execute] at hex
    subst hex
    have := Arca.Proofs.PluginState.owes_not_quiescent (Arca.Proofs.PluginState.reachable_at hr) ho
    rw [hq] at this
    cases this
  | cons a rest ih =>
    intro s t hr ho hex hq
    simp only [execute] at hex
    cases hstep : step marks s a with
    | none => simp [hstep] at hex
    | some s' =>
      simp only [hstep] at hex
      have hr' : Reachable marks s' := Reachable.step a hr hstep
      simp only [hasFaithfulCheck, hstep, Bool.or_eq_true, Bool.and_eq_true]
      rcases Arca.Proofs.PluginState.owes_step ho hstep
        with ⟨ha, hp⟩ | ho'
      · cases href : Refined s' with
        | false => left; subst ha; simp [hp]
        | true => right; exact ih s' t hr' (refinement_owes_check marks s' hr' href) hex hq
      · right; exact ih s' t hr' ho' hex hq

/-- Whenever `countsAs` turns a raw `waiting_for_input` / `finished` into `running`, every run of the
    step to rest contains a check that sees the step as it is -/
theorem no_lost_check (marks : Bool) (s t : St) (acts : List Act) (hr : Reachable marks s) (href : Refined s = true)
    (hex : execute marks s acts = some t) (hq : Quiescent t = true) : hasFaithfulCheck marks s acts = true :=
  owed_check_runs marks acts s t hr (refinement_owes_check marks s hr href) hex hq

/-- `checkForDeadlocks(retries)` reports "no more possible steps" only if `retries + 1` consecutive polls ALL saw no
    `starting`/`running` step — for the retry count read from the source (3, the `three` of the name): four polls. -/
theorem detector_needs_quiescence_for_three_polls (polls : List (List RState))
    (h : detectorFires Arca.Gen.detectorRetries polls = true) :
    (polls.take (Arca.Gen.detectorRetries + 1)).length = Arca.Gen.detectorRetries + 1 ∧
    (polls.take (Arca.Gen.detectorRetries + 1)).all idle = true :=
  Arca.Proofs.PluginState.fires_take _ polls h

/-- a single poll among them that sees a `starting` or `running` step stops the detector -/
theorem one_active_poll_stops_detector (polls : List (List RState)) (i : Nat) (p : List RState)
    (hi : i ≤ Arca.Gen.detectorRetries) (hp : polls[i]? = some p) (hbusy : idle p = false) :
    detectorFires Arca.Gen.detectorRetries polls = false :=
  Arca.Proofs.PluginState.busy_poll_stops _ polls i p hi hp hbusy

/-- logical time: the polls happen at `t0, t0 + d, .., t0 + retries * d`; a window `[a, b)` during which a step wrongly
    looks idle covers all of them only if it is longer than `retries * d` (3 × 10 ms for the current constants) -/
theorem short_window_cannot_trigger (t0 d a b : Nat) (hshort : b ≤ a + Arca.Gen.detectorRetries * d) :
    ¬ (∀ i, i ≤ Arca.Gen.detectorRetries → a ≤ t0 + i * d ∧ t0 + i * d < b) := by
  intro h
  have h0 := h 0 (Nat.zero_le _)
  have hr := h Arca.Gen.detectorRetries (Nat.le_refl _)
  simp only [Nat.zero_mul, Nat.add_zero] at h0
  omega

/-- a step counted as waiting that is quiescent (parked on the empty deploy channel, report processed) -/
example : (execute true init toDeployWait).map (fun s => (s.state, countsAs s, Quiescent s, Settled s)) =
    some (.waiting, .waiting, true, true) := by decide +kernel

/-- a step counted as waiting that is settled but not yet parked: inside / returning from the handler of
    `OnStageChange(deploy -> enabling)`, where the first poll runs -/
example : (execute true init (toEnableLock ++ [.internal, .deliver])).map
    (fun s => (s.pc, countsAs s, Quiescent s, Settled s, Refined s)) = some (.eCbRet, .waiting, false, true, false) := by decide +kernel

/-- the refinement is at work in a reachable state, a check is owed … -/
example : (execute true init (toEnableLock ++ [.provideEnabling true, .internal])).map (fun s => (Refined s, owesCheck s)) =
    some (true, true) := by decide +kernel

/-- … and the run from there to rest (the step parks waiting for its run input) contains a faithful check: the processing
    of `OnStageChange(enabling -> starting)` -/
example :
    (match execute true init (toEnableLock ++ [.provideEnabling true, .internal]) with
     | some s =>
       let acts : List Act := [.deliver, .internal, .recv, .deliverFailure, .internal, .internal, .deliver, .internal, .internal]
       ((execute true s acts).map Quiescent, hasFaithfulCheck true s acts)
     | none => (none, false)) = (some true, true) := by decide +kernel

/-- a cancelled step runs through `closedEarly` to its end; counted as running until its completion is processed, then
    as finished and harmless all the way -/
example : (execute true init (toEnableWait ++ [.cancel, .ctx, .internal, .deliverFailure, .internal])).map
    (fun s => (s.pc, s.state, countsAs s)) = some (.complCb .closed, .finished, .running) := by decide +kernel
example : (execute true init (toEnableWait ++ [.cancel, .ctx, .internal, .deliverFailure, .internal, .deliver])).map
    (fun s => (s.pc, countsAs s, Harmless s, s.tailFails, s.settledStages)) =
    some (.complCbRet .closed, .finished, true, [.starting, .running, .outputs],
      [.deployFailed, .enabling, .disabled, .starting, .running, .outputs, .crashed]) := by decide +kernel

/-- the step does get through to `done`; there `finished` is counted and is sound -/
example : (execute true init (toStartTry ++ [.internal, .internal, .deliver, .internal, .internal, .provideStarting, .recv, .internal,
    .startOk, .internal, .deliver, .internal, .resultOk, .internal, .deliver, .internal, .internal, .deliver, .internal,
    .internal])).map (fun s => (s.pc, s.state, s.stage, countsAs s, Quiescent s)) =
    some (.done, .finished, .outputs, .finished, true) := by decide +kernel

/-- the detector does fire on four idle polls and not on three -/
example : detectorFires Arca.Gen.detectorRetries [[.waiting], [.waiting, .finished], [.finished], [.waiting]] = true := by decide +kernel
example : detectorFires Arca.Gen.detectorRetries [[.waiting], [.waiting], [.waiting]] = false := by decide +kernel
example : detectorFires Arca.Gen.detectorRetries [[.waiting], [.waiting], [.running], [.waiting], [.waiting]] = false := by decide +kernel

/-- a window of 31 ms can cover the four polls, one of 30 ms cannot -/
example : ∀ i, i ≤ Arca.Gen.detectorRetries → 0 ≤ 0 + i * 10 ∧ 0 + i * 10 < 31 := by decide +kernel

end Arca.Props.C09
