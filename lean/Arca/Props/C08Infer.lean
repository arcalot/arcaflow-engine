/-
C08 — the returned workflow output conforms to the workflow's output schema, for outputs whose schema is INFERRED
(`internal/infer/infer.go`, anchor "output schema inference"; `handleOutput` re-validates the returned data with that schema and
reports "bug: output schema cannot unserialize output data" when it does not fit).

Model: `Arca.Model.Infer` (literal data; see its header for the fragment), tied to the source by the pins of
`infer.Type` / `sliceType` / `sliceItemType` / `objectType` / `mapType` / `Scope` / `OutputSchema` and by the differential
`vharness infer | arcadrv infer` (the real `infer.Type` and the real `Unserialize` of the inferred schema on generated typed
literals, compared with `infer` / `accepts`).

The full-strength statement — "the schema inferred from a value accepts that value" — is FALSE of the model and of the code
(`inferred_schema_can_reject_its_own_value`, replayed against the real engine: known finding C08:inferred-list-item-type-from-first-item):
`sliceItemType` takes the item type of a list from its first item and compares only `TypeID()` for the others.  What is proved is
the statement under the decidable hypothesis `homog` (every list's first-item type accepts the other items), which is exactly the
condition the code does not check.
-/
import Arca.Proofs.InferSound
import Arca.Proofs.InferComplete
import Arca.Proofs.InferCompared

namespace Arca.Props.C08Infer
open Arca.Model.Infer Arca.Proofs.InferSound

/-- the schema inferred for a homogeneous literal accepts the literal: `handleOutput` cannot report its 'bug:' error for it.
    `_partial`: the hypothesis `homog` is missing from the property (see `inferred_schema_can_reject_its_own_value`). -/
theorem inferred_schema_accepts_homogeneous_value_partial (v : Lit) (t : ITy)
    (hi : infer v = some t) (hw : wf v = true) (hh : homog v = true) : accepts t v = true :=
  sound_lit v t hi hw hh

/-- every field of an object literal gets a property of its own, in order, typed by its own value: objects as such are never the
    source of a mismatch (no homogeneity is needed ACROSS fields, only inside the lists below them) -/
theorem inferred_object_accepts_fields_partial (fs : Fields) (ps : IProps)
    (hi : inferFields fs = some ps) (hw : wfFields fs = true) (hh : homogFields fs = true) : acceptsObj ps fs = true :=
  sound_fields fs ps hi hw hh

/-- `foundType` is the type of the FIRST item whatever follows: the later items never refine it -/
theorem list_item_type_is_first_items (x : Lit) (rest : Lits) (t0 t : ITy)
    (hx : infer x = some t0) (hl : infer (.list (.cons x rest)) = some t) : t = .list t0 :=
  infer_list_cons hx hl

/-- what the real check (`foundType.TypeID() != types[i].TypeID()`) does guarantee: a value the item type accepts has the
    same TypeID — the converse is what fails -/
theorem accepted_item_has_same_type_id (t u : ITy) (v : Lit) (ha : accepts t v = true) (hi : infer v = some u) :
    t.tid = u.tid :=
  Option.some.inj ((litTid_of_accepts ha).symm.trans (litTid_of_infer hi))

/-- the witness: `[{a: 1}, {b: "x"}]` (any two objects with different key sets) -/
def witness : Lit :=
  .list (.cons (.obj (.cons "a" (.int (-9223372036854775808) 9223372036854775807 1) .nil))
        (.cons (.obj (.cons "b" (.str "x") .nil)) .nil))

/-- COUNTEREXAMPLE to the full-strength statement: inference succeeds, the value is well-formed, no cross-kind conversion is
    involved, and the inferred schema rejects the value it was inferred from. -/
theorem inferred_schema_can_reject_its_own_value :
    ∃ v t, infer v = some t ∧ wf v = true ∧ leafConsistent t v = true ∧ accepts t v = false ∧ homog v = false :=
  ⟨witness, .list (.obj (.cons "a" (.int (-9223372036854775808) 9223372036854775807) .nil)), rfl, by decide +kernel⟩

/-- the same for nested lists: `[[true], [{}]]` -/
theorem inferred_schema_can_reject_nested_list :
    ∃ v t, infer v = some t ∧ accepts t v = false :=
  ⟨.list (.cons (.list (.cons (.bool true) .nil)) (.cons (.list (.cons (.obj .nil) .nil)) .nil)), .list (.list .bool), rfl, rfl⟩

/-- non-vacuity: a non-trivial literal (list of two objects with the same keys, each holding a list) meets every hypothesis of
    `inferred_schema_accepts_homogeneous_value_partial` -/
def sample : Lit :=
  .list (.cons (.obj (.cons "k" (.list (.cons (.str "p") .nil)) (.cons "n" (.int 0 255 7) .nil)))
        (.cons (.obj (.cons "k" (.list .nil) (.cons "n" (.int 0 255 255) .nil))) .nil))

example : (infer sample).isSome = true ∧ wf sample = true ∧ homog sample = true := by decide +kernel

/-- COMPLETENESS of the refusal: `infer.Type` returns an error for exactly the literals that hold a nil or a list with items of
    different `TypeID()` (`typable`, a decidable predicate on the value alone) — every other literal gets a schema.  Together with
    `inferred_schema_accepts_homogeneous_value_partial`: a typable, homogeneous, well-formed output value can never produce the
    `bug:` error of `handleOutput`. -/
theorem inference_refuses_exactly_the_untypable (v : Lit) : (infer v).isSome = typable v :=
  Arca.Proofs.InferComplete.infer_isSome v

/-- the two theorems combined, without mentioning the inferred type -/
theorem typable_homogeneous_value_is_accepted (v : Lit) (ht : typable v = true) (hw : wf v = true) (hh : homog v = true) :
    ∃ t, infer v = some t ∧ accepts t v = true := by
  have h := inference_refuses_exactly_the_untypable v
  rw [ht] at h
  cases hi : infer v with
  | none => rw [hi] at h; cases h
  | some t => exact ⟨t, rfl, sound_lit v t hi hw hh⟩

example : typable sample = true := by decide +kernel

/-- the correspondence check never skips the acceptance verdict of a literal the soundness theorem speaks about: a well-formed
    homogeneous literal is `leafConsistent` with its inferred type (the driver's condition for comparing the real `Unserialize`
    verdict with `accepts`), and more generally whatever the model accepts is compared -/
theorem homogeneous_values_are_compared (v : Lit) (t : ITy) (hi : infer v = some t) (hw : wf v = true) (hh : homog v = true) :
    leafConsistent t v = true :=
  Arca.Proofs.InferCompared.lc_of_accepts t v (Arca.Proofs.InferSound.sound_lit v t hi hw hh)

theorem accepted_values_are_compared (t : ITy) (v : Lit) (h : accepts t v = true) : leafConsistent t v = true :=
  Arca.Proofs.InferCompared.lc_of_accepts t v h

/-- the ranges attached to the Go integer kinds are non-empty (the whole table) -/
theorem kind_ranges_ordered :
    (["int8", "int16", "int32", "int64", "int", "uint8", "uint16", "uint32", "uint64", "uint"].all
      (fun k => match kindRange k with | some (lo, hi) => decide (lo ≤ hi) | none => false)) = true := by
  decide +kernel

end Arca.Props.C08Infer
