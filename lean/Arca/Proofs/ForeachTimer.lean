/-
Helper lemma for the timer extension of the foreach pool: a schedule with timer events is a pool schedule underneath.
-/
import Arca.Model.ForeachTimer

namespace Arca.Model.ForeachPool

variable {α β : Type}

theorem runSchedT_untick {P : Pool α β} {s s' : PoolState α β} {l : List TrT} (h : runSchedT P s l = some s') :
    runSched P s (untick l) = some s' := by
  induction l generalizing s with
  | nil => exact h
  | cons t ts ih =>
    simp only [runSchedT] at h
    split at h
    · cases h
    · rename_i s₁ h₁
      cases t with
      | pool t => simp only [untick, runSched, show step P s t = some s₁ from h₁]; exact ih h
      | tick i =>
        simp only [stepT] at h₁
        split at h₁
        · cases h₁; exact ih h
        · cases h₁

end Arca.Model.ForeachPool
