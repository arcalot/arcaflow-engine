/-
Text round trips, `strings.Split` / `strings.Join` and case mapping of the built-in functions.
-/
import Arca.Model.Builtins

namespace Arca.Proofs.Builtins
open Arca.Model Arca.Model.Builtins

theorem head_toDigits_isDigit (n : Nat) : ∃ c rest, Nat.toDigits 10 n = c :: rest ∧ c.isDigit = true := by
  cases h : Nat.toDigits 10 n with
  | nil => exact absurd h Nat.toDigits_ne_nil
  | cons c rest =>
    refine ⟨c, rest, rfl, ?_⟩
    apply Nat.isDigit_of_mem_toDigits (b := 10) (n := n) (by decide) (by decide)
    rw [h]; exact List.mem_cons_self

theorem parseNat_toDigits (n : Nat) : parseNat (Nat.toDigits 10 n) = some n := by
  unfold parseNat
  have hne : (Nat.toDigits 10 n).isEmpty = false := List.isEmpty_eq_false_iff.mpr Nat.toDigits_ne_nil
  have hall : (Nat.toDigits 10 n).all Char.isDigit = true :=
    List.all_eq_true.mpr fun c hc => Nat.isDigit_of_mem_toDigits (by decide) (by decide) hc
  simp [hne, hall, Nat.ofDigitChars_ten_toDigits]

theorem stringToIntChars_toDigits (n : Nat) :
    stringToIntChars (Nat.toDigits 10 n) = (if n < 2 ^ 63 then some (n : Int) else none) ∧
    stringToIntChars ('-' :: Nat.toDigits 10 n) = (if n ≤ 2 ^ 63 then some (-(n : Int)) else none) := by
  constructor
  · -- the first digit is neither `-` nor `+`: the unsigned reading
    obtain ⟨c, rest, hcr, hc⟩ := head_toDigits_isDigit n
    have hp := parseNat_toDigits n
    rw [hcr] at hp ⊢
    unfold stringToIntChars
    split
    · rename_i heq; injection heq with h1 _; subst h1; exact absurd hc (by decide)
    · rename_i heq; injection heq with h1 _; subst h1; exact absurd hc (by decide)
    · rw [hp]; rfl
  · rw [stringToIntChars, parseNat_toDigits]; rfl

theorem splitGo_ne_nil (sep : List Char) (fuel : Nat) (s cur : List Char) : splitGo sep fuel s cur ≠ [] := by
  induction fuel generalizing s cur with
  | zero => simp [splitGo]
  | succ f ih =>
    cases s with
    | nil => simp [splitGo]
    | cons c cs =>
      unfold splitGo
      split
      · simp
      · exact ih _ _

theorem joinChars_cons {sep p : List Char} {l : List (List Char)} (h : l ≠ []) :
    joinChars sep (p :: l) = p ++ sep ++ joinChars sep l := by
  cases l with
  | nil => exact absurd rfl h
  | cons q rest => rfl

theorem join_splitGo (sep : List Char) (hsep : sep ≠ []) (fuel : Nat) (s cur : List Char) (hf : s.length ≤ fuel) :
    joinChars sep (splitGo sep fuel s cur) = cur.reverse ++ s := by
  induction fuel generalizing s cur with
  | zero =>
    have : s = [] := List.length_eq_zero_iff.1 (Nat.le_zero.1 hf)
    subst this
    simp [splitGo, joinChars]
  | succ f ih =>
    cases s with
    | nil => simp [splitGo, joinChars]
    | cons c cs =>
      unfold splitGo
      split
      · rename_i hp
        rw [joinChars_cons (splitGo_ne_nil _ _ _ _)]
        have hlen : ((c :: cs).drop sep.length).length ≤ f := by
          have : 0 < sep.length := List.length_pos_iff.2 hsep
          simp only [List.length_drop, List.length_cons] at hf ⊢
          omega
        rw [ih _ _ hlen]
        have hpre : sep <+: (c :: cs) := List.isPrefixOf_iff_prefix.1 hp
        have := List.prefix_iff_eq_append.1 hpre
        simp only [List.reverse_nil, List.nil_append, List.append_assoc]
        rw [this]
      · have hlen : cs.length ≤ f := by simp only [List.length_cons] at hf; omega
        rw [ih _ _ hlen]
        simp

theorem join_explode (s : List Char) : joinChars [] (s.map fun c => [c]) = s := by
  induction s with
  | nil => rfl
  | cons c cs ih =>
    cases cs with
    | nil => rfl
    | cons d ds =>
      simp only [List.map_cons] at ih ⊢
      show [c] ++ [] ++ joinChars [] ([d] :: List.map (fun c => [c]) ds) = c :: d :: ds
      rw [ih]; rfl

theorem join_splitChars (s sep : List Char) : joinChars sep (splitChars s sep) = s := by
  unfold splitChars
  cases sep with
  | nil => simpa using join_explode s
  | cons a as =>
    simp only [List.isEmpty_cons, Bool.false_eq_true, if_false]
    simpa using join_splitGo (a :: as) (by simp) s.length s [] (Nat.le_refl _)

theorem length_splitGo (sep : List Char) (fuel : Nat) (s cur : List Char) :
    (splitGo sep fuel s cur).length = countGo sep fuel s + 1 := by
  induction fuel generalizing s cur with
  | zero => simp [splitGo, countGo]
  | succ f ih =>
    cases s with
    | nil => simp [splitGo, countGo]
    | cons c cs =>
      unfold splitGo countGo
      split
      · simp [ih]
      · exact ih _ _

/- `Char.toLower` / `Char.toUpper` move A–Z / a–z by 32; the image of a letter is outside the range that is moved, hence
idempotence on all code points. -/

theorem toLower_toLower (c : Char) : c.toLower.toLower = c.toLower := by
  simp only [Char.toLower]
  split
  · split
    · next h1 h2 =>
      simp only [UInt32.le_iff_toNat_le, UInt32.toNat_add, seval] at h1 h2
      omega
    · simp
  · rfl

theorem toUpper_toUpper (c : Char) : c.toUpper.toUpper = c.toUpper := by
  simp only [Char.toUpper]
  split
  · split
    · next h1 h2 =>
      simp only [UInt32.le_iff_toNat_le, UInt32.toNat_add, seval] at h1 h2
      omega
    · simp
  · rfl

theorem isAscii_toLower {c : Char} (h : isAscii c = true) : isAscii c.toLower = true := by
  simp only [Char.toLower]
  split
  · next h1 =>
    simp only [isAscii, Char.toNat, decide_eq_true_eq, UInt32.le_iff_toNat_le, UInt32.toNat_add, seval] at h1 ⊢
    omega
  · exact h

theorem isAscii_toUpper {c : Char} (h : isAscii c = true) : isAscii c.toUpper = true := by
  simp only [Char.toUpper]
  split
  · next h1 =>
    simp only [isAscii, Char.toNat, decide_eq_true_eq, UInt32.le_iff_toNat_le, UInt32.toNat_add, seval] at h1 ⊢
    omega
  · exact h

theorem lowerChar_idem_ascii (cm : Char → Char) {c : Char} (hc : isAscii c = true) :
    lowerChar cm (lowerChar cm c) = lowerChar cm c := by
  simp [lowerChar, hc, isAscii_toLower hc, toLower_toLower]

theorem upperChar_idem_ascii (cm : Char → Char) {c : Char} (hc : isAscii c = true) :
    upperChar cm (upperChar cm c) = upperChar cm c := by
  simp [upperChar, hc, isAscii_toUpper hc, toUpper_toUpper]

theorem ofList_map_idem (f : Char → Char) (s : String) (h : ∀ c ∈ s.toList, f (f c) = f c) :
    String.ofList ((String.ofList (s.toList.map f)).toList.map f) = String.ofList (s.toList.map f) := by
  rw [String.toList_ofList, List.map_map]
  exact congrArg String.ofList (List.map_congr_left h)

end Arca.Proofs.Builtins
