/-
What the entry point reads of `filepath.Abs` and of the spelling of the root directory (`subworkflowCache_rel`,
`runWorkflow_congr`), and the shape of every result of `RunWorkflow` (`runWorkflow_cases`, `runWorkflow_of_files`).
-/
import Arca.Proofs.EngineApi

namespace Arca.Proofs.EngineApi
open Arca.Model.EngineApi

/-! Every cache loaded from disk carries `filepath.Abs(rootDir)`.  Since the caller's files are followed without being
loaded, a workflow whose references are all supplied merges the caches collected so far, and `MergeFileCaches` of a list
of nil caches is a cache with the EMPTY root directory.  Such a cache only arises while nothing has been loaded yet, so
in every list that is merged the caches with the empty root come first: `EmptyRootsFirst`. -/

def AllRoot (a : String) (cs : List (Option FileCache)) : Prop := ∀ c, some c ∈ cs → c.rootDir = a

/-- said through what `MergeFileCaches` computes: the root directory checks pass whatever `filepath.Abs` is, and the
    result has root `a` unless every cache has the empty one -/
def EmptyRootsFirst (a : String) (cs : List (Option FileCache)) : Prop :=
  (∀ abs, rootsOk abs "" cs = true) ∧ (lastRoot "" cs = a ∨ AllRoot "" cs)

theorem emptyRootsFirst_nil (a : String) : EmptyRootsFirst a [] := ⟨fun _ => rfl, .inr nofun⟩

theorem lastRoot_allRoot {a : String} {cs : List (Option FileCache)} (h : AllRoot a cs) : lastRoot a cs = a := by
  induction cs with
  | nil => rfl
  | cons c rest ih =>
    have hrest := ih fun c hc => h c (List.mem_cons_of_mem _ hc)
    cases c with
    | none => exact hrest
    | some fc => rwa [lastRoot, h fc List.mem_cons_self]

theorem mergeFileCaches_emptyRootsFirst (abs : String → String) {a : String} {cs : List (Option FileCache)}
    (hs : EmptyRootsFirst a cs) : mergeFileCaches abs cs = .ok { rootDir := lastRoot "" cs, files := allFiles [] cs } := by
  rw [mergeFileCaches, mergeFrom_eq, hs.1]
  rfl

/-- the root directory of what a recursive call returns: the absolute one, or the empty one while nothing has been loaded -/
def RootOk (a : String) (caches : List (Option FileCache)) (sc : FileCache) : Prop :=
  sc.rootDir = a ∨ (sc.rootDir = "" ∧ AllRoot "" caches)

theorem EmptyRootsFirst.append {a : String} {cs : List (Option FileCache)} (h : EmptyRootsFirst a cs)
    {c : Option FileCache} (hc : ∀ sc, c = some sc → RootOk a cs sc) : EmptyRootsFirst a (cs ++ [c]) := by
  cases c with
  | none =>
    refine ⟨fun abs => by rw [rootsOk_append, h.1]; rfl, ?_⟩
    rw [lastRoot_append]
    exact h.2.imp_right fun hall c hc => hall c (by simpa using hc)
  | some sc =>
    have hlast : lastRoot "" cs = "" ∨ lastRoot "" cs = sc.rootDir :=
      match h.2, hc sc rfl with
      | .inr hall, _ | _, .inr ⟨_, hall⟩ => .inl (lastRoot_allRoot hall)
      | .inl hl, .inl hr => .inr (hl.trans hr.symm)
    refine ⟨fun abs => ?_, ?_⟩
    · rw [rootsOk_append, h.1, rootsOk, rootsOk, Bool.true_and, Bool.and_true, Bool.or_eq_true, beq_iff_eq,
        sameDirectory_iff]
      exact hlast.imp_right .inl
    · rw [lastRoot_append]
      exact (hc sc rfl).imp id fun ⟨h0, hall⟩ c hc => by
        rcases List.mem_append.mp hc with hc | hc
        · exact hall c hc
        · cases List.mem_singleton.mp hc
          exact h0

def LoopInv (a : String) (caches : List (Option FileCache)) : Except Err (List (Option FileCache)) → Prop
  | .ok cs => EmptyRootsFirst a cs ∧ ∃ extra, cs = caches ++ extra
  | .error _ => True

theorem LoopInv.start {a : String} {caches : List (Option FileCache)} (h : EmptyRootsFirst a caches) :
    LoopInv a caches (.ok caches) := ⟨h, [], by simp⟩

theorem LoopInv.append {a : String} {caches cs : List (Option FileCache)} {c : Option FileCache}
    (hb : LoopInv a caches (.ok cs)) (hc : ∀ sc, c = some sc → RootOk a cs sc) : LoopInv a caches (.ok (cs ++ [c])) :=
  have ⟨hs, extra, he⟩ := hb
  ⟨hs.append hc, extra ++ [c], by rw [he, List.append_assoc]⟩

/-- two runs of a loop — two environments, two recursive calls — stay together; with twice the same run this is the
    invariant alone -/
def LoopRel (a : String) (caches : List (Option FileCache)) (b₁ b₂ : Except Err (List (Option FileCache))) : Prop :=
  b₁ = b₂ ∧ LoopInv a caches b₂

def RecurRel (a : String) (recur₁ recur₂ : Wf → List (Option FileCache) → List String → Except Err (Option FileCache)) :
    Prop :=
  ∀ w cs p, EmptyRootsFirst a cs → recur₁ w cs p = recur₂ w cs p ∧ ∀ sc, recur₂ w cs p = .ok (some sc) → RootOk a cs sc

section
variable {P I D : Type}

section
variable {env₁ env₂ : Env P I D} (hy : env₁.fromYAML = env₂.fromYAML) {a : String} {caches : List (Option FileCache)}
  {recur₁ recur₂ : Wf → List (Option FileCache) → List String → Except Err (Option FileCache)}
  (hrec : RecurRel a recur₁ recur₂) (parents : List String)
include hy hrec

theorem visitStep_rel (kv : String × CtxFile) {b₁ b₂ : Except Err (List (Option FileCache))}
    (hb : LoopRel a caches b₁ b₂) :
    LoopRel a caches (visitStep env₁ recur₁ parents b₁ kv) (visitStep env₂ recur₂ parents b₂ kv) := by
  obtain ⟨rfl, hb⟩ := hb
  cases b₁ with
  | error e => exact ⟨rfl, trivial⟩
  | ok cs =>
    simp only [visitStep, hy]
    split
    · exact ⟨rfl, trivial⟩
    · split
      · exact ⟨rfl, trivial⟩
      · rename_i subwf _
        obtain ⟨heq, hroot⟩ := hrec subwf cs (parents ++ [kv.2.absPath]) hb.1
        rw [heq]
        cases hr : recur₂ subwf cs (parents ++ [kv.2.absPath]) with
        | error e => exact ⟨rfl, trivial⟩
        | ok fc => exact ⟨rfl, hb.append fun sc hsc => hroot sc (hsc ▸ hr)⟩

theorem visitSupplied_rel (sup : FileCache) (ρ path : String) {b₁ b₂ : Except Err (List (Option FileCache))}
    (hb : LoopRel a caches b₁ b₂) :
    LoopRel a caches (visitSupplied env₁ { sup with rootDir := ρ } recur₁ parents b₁ path)
      (visitSupplied env₂ sup recur₂ parents b₂ path) := by
  obtain ⟨rfl, hb⟩ := hb
  cases b₁ with
  | error e => exact ⟨rfl, trivial⟩
  | ok cs =>
    simp only [visitSupplied, hy]
    split
    · exact ⟨rfl, hb⟩
    · split
      · exact ⟨rfl, trivial⟩
      · split
        · exact ⟨rfl, trivial⟩
        · rename_i subwf _
          obtain ⟨heq, hroot⟩ := hrec subwf cs (parents ++ [path]) hb.1
          rw [heq]
          cases hr : recur₂ subwf cs (parents ++ [path]) with
          | error e => exact ⟨rfl, trivial⟩
          | ok fc =>
            cases fc with
            | none => exact ⟨rfl, hb⟩
            | some sc => exact ⟨rfl, hb.append fun sc' hsc => hroot sc' (hsc ▸ hr)⟩

theorem suppliedLoop_rel (s : Option FileCache) (ρ : String) (refs : List String) (hc : EmptyRootsFirst a caches) :
    LoopRel a caches (suppliedLoop env₁ (s.map ({ · with rootDir := ρ })) recur₁ parents caches refs)
      (suppliedLoop env₂ s recur₂ parents caches refs) := by
  cases s with
  | none => exact ⟨rfl, .start hc⟩
  | some sup =>
    exact List.foldl_rel (r := LoopRel a caches) ⟨rfl, .start hc⟩ fun path _ _ _ =>
      visitSupplied_rel hy hrec parents sup ρ path

end

/-- a workflow without foreach steps, with nothing collected so far, has no sub-workflow cache -/
theorem subworkflowCache_no_refs (env : Env P I D) (fuel : Nat) (wf : Wf) (rootDir : String)
    (parents : List String) (supplied : Option FileCache) (h : wf.refs = []) :
    subworkflowCache env (fuel + 1) wf rootDir [] parents supplied = .ok none := by
  cases supplied <;> simp [subworkflowCache, suppliedLoop, remaining, h]

/-- the same environment with another `filepath.Abs` (another working directory) -/
def withAbs (env : Env P I D) (f : String → String) : Env P I D :=
  { env with abs := f }

/-- `filepath.Abs` of an absolute path is that path (cleaned): a property of the real function, a hypothesis here -/
def AbsIdempotent (env : Env P I D) : Prop := ∀ s, env.abs (env.abs s) = env.abs s

theorem loadCache_congr (env : Env P I D) (f : String → String) (r₁ r₂ : String) (h : f r₁ = env.abs r₂)
    (paths : List String) : loadCache (withAbs env f) r₁ paths = loadCache env r₂ paths := by
  unfold loadCache resolve withAbs
  simp only [h]

/-- Discovery consults `filepath.Abs` and the root directory only through `filepath.Abs(rootDir)` (on `EmptyRootsFirst`
    lists `sameDirectory` is only asked about two equal strings) and the caller's cache only through its files (`ρ`: any
    other root directory); the second component of `RecurRel` is the root directory of its result. -/
theorem subworkflowCache_rel (env : Env P I D) (f : String → String) (r₁ r₂ : String) (h : f r₁ = env.abs r₂)
    (s : Option FileCache) (ρ : String) (fuel : Nat) :
    RecurRel (env.abs r₂) (fun w c p => subworkflowCache (withAbs env f) fuel w r₁ c p (s.map ({ · with rootDir := ρ })))
      (fun w c p => subworkflowCache env fuel w r₂ c p s) := by
  induction fuel with
  | zero => exact fun _ _ _ _ => ⟨rfl, fun _ h => by cases h⟩
  | succ n ih =>
    intro wf caches parents hc
    have hrem : remaining (s.map ({ · with rootDir := ρ })) wf.refs = remaining s wf.refs := by cases s <;> rfl
    obtain ⟨hsup, hloop⟩ := suppliedLoop_rel (env₁ := withAbs env f) (env₂ := env) rfl ih parents s ρ wf.refs hc
    dsimp only
    rw [subworkflowCache, subworkflowCache, hsup, hrem, loadCache_congr env f r₁ r₂ h]
    split
    · exact ⟨rfl, fun _ h => by cases h⟩
    · rename_i caches₀ hsl
      rw [hsl] at hloop
      obtain ⟨hs₀, extra, he⟩ := hloop
      by_cases hrest : (remaining s wf.refs).isEmpty = true
      · rw [if_pos hrest, if_pos hrest]
        split
        · exact ⟨rfl, fun _ h => by cases h⟩
        · rw [mergeFileCaches_emptyRootsFirst _ hs₀, mergeFileCaches_emptyRootsFirst _ hs₀]
          refine ⟨rfl, fun sc hsc => ?_⟩
          cases hsc
          exact hs₀.2.imp id fun hall => ⟨lastRoot_allRoot hall, fun c hc => hall c (he ▸ List.mem_append_left _ hc)⟩
      · rw [if_neg hrest, if_neg hrest]
        split
        · exact ⟨rfl, fun _ h => by cases h⟩
        · rename_i stepCache hload
          have hsc := (loadCache_spec hload).1
          obtain ⟨hfold, hinv⟩ : LoopRel (env.abs r₂) caches₀
              (stepCache.files.foldl (visitStep (withAbs env f) _ parents) (.ok caches₀))
              (stepCache.files.foldl (visitStep env _ parents) (.ok caches₀)) :=
            List.foldl_rel ⟨rfl, .start hs₀⟩ fun kv _ _ _ =>
              visitStep_rel (env₁ := withAbs env f) (env₂ := env) rfl ih parents kv
          rw [hfold]
          split
          · exact ⟨rfl, fun _ h => by cases h⟩
          · rename_i cs' hv
            rw [hv] at hinv
            have hm := hinv.1.append (c := some stepCache) fun _ h' => .inl (Option.some.inj h' ▸ hsc)
            rw [mergeFileCaches_emptyRootsFirst _ hm, mergeFileCaches_emptyRootsFirst _ hm]
            refine ⟨rfl, fun sc hsc' => Or.inl ?_⟩
            cases hsc'
            rw [lastRoot_append]
            exact hsc

theorem subworkflowCache_root {env : Env P I D} {rootDir : String} {supplied : Option FileCache} {fuel : Nat} {wf : Wf}
    {caches : List (Option FileCache)} {parents : List String} {sc : FileCache}
    (hc : EmptyRootsFirst (env.abs rootDir) caches) :
    subworkflowCache env fuel wf rootDir caches parents supplied = .ok (some sc) → RootOk (env.abs rootDir) caches sc :=
  (subworkflowCache_rel env env.abs rootDir rootDir rfl supplied "" fuel wf caches parents hc).2 sc

theorem run_cases (env : Env P I D) (wf : Wf) (p : P) (input : String) :
    (∃ e, run env wf p input = errResult e) ∨
    ∃ id d, wf.outputs.contains id = true ∧ run env wf p input =
      { outputID := id, data := some d, isError := classify (declaredFlag wf id) id, err := none } := by
  unfold run
  split
  · exact Or.inl ⟨_, rfl⟩
  · split
    · exact Or.inl ⟨_, rfl⟩
    · rename_i id d _
      by_cases hc : wf.outputs.contains id = true
      · exact Or.inr ⟨id, d, hc, if_pos hc⟩
      · exact Or.inl ⟨_, if_neg hc⟩

theorem runWorkflow_cases (env : Env P I D) (fuel : Nat) (files : FileCache) (name input : String) :
    (∃ e, runWorkflow env fuel files name input = errResult e) ∨
    ∃ wf p id d, parse env fuel files name = .ok (wf, p) ∧ wf.outputs.contains id = true ∧
      runWorkflow env fuel files name input =
        { outputID := id, data := some d, isError := classify (declaredFlag wf id) id, err := none } := by
  unfold runWorkflow
  cases parse env fuel files name with
  | error e => exact Or.inl ⟨e, rfl⟩
  | ok wp => exact (run_cases env wp.1 wp.2 input).imp id fun ⟨id, d, hc, hr⟩ => ⟨wp.1, wp.2, id, d, rfl, hc, hr⟩

theorem runWorkflow_of_files {env : Env P I D} {fuel : Nat} {files : FileCache} {name : String} (input : String) {wf : Wf}
    {m : FileCache} (hf : parseFiles env fuel files name = .ok (wf, m)) :
    runWorkflow env fuel files name input =
      match checkCycles env.fromYAML fuel wf m.contents [] with
      | .error e => errResult e
      | .ok () =>
        if supportedVersion wf.version then direct env wf m.contents input else errResult .unsupportedVersion := by
  simp only [runWorkflow, parse, parseWith, hf, direct]
  cases checkCycles env.fromYAML fuel wf m.contents [] with
  | error e => rfl
  | ok u =>
    cases supportedVersion wf.version with
    | false => rfl
    | true => cases prepare env wf m.contents <;> rfl

/-- the file stage of `Parse` consults `filepath.Abs` and the caller's root directory only in `filepath.Abs(rootDir)`
    (discovery, `habs`) and in the root-directory check of the final merge (`hmerge`); the merged cache has the caller's
    root directory -/
theorem parseFilesWith_congr (env : Env P I D) (f : String → String) (fuel : Nat) (files : FileCache) (r name : String)
    (habs : f r = env.abs files.rootDir)
    (hmerge : sameDirectory f (env.abs files.rootDir) r = sameDirectory env.abs (env.abs files.rootDir) files.rootDir) :
    parseFilesWith (withAbs env f) true fuel { files with rootDir := r } name =
      (parseFilesWith env true fuel files name).map fun (wf, m) => (wf, { m with rootDir := r }) := by
  have hsub : ∀ wf, subworkflowCache (withAbs env f) fuel wf r [] [] (some { files with rootDir := r }) =
      subworkflowCache env fuel wf files.rootDir [] [] (some files) := fun wf =>
    (subworkflowCache_rel env f r files.rootDir habs (some files) r fuel wf [] [] (emptyRootsFirst_nil _)).1
  simp only [parseFilesWith, if_true, show (withAbs env f).fromYAML = env.fromYAML from rfl,
    show (withAbs env f).abs = f from rfl]
  cases getFile (defaultName name) files.files with
  | none => rfl
  | some cf =>
    dsimp only
    cases env.fromYAML cf.content with
    | none => rfl
    | some wf =>
      dsimp only
      rw [hsub]
      cases hs : subworkflowCache env fuel wf files.rootDir [] [] (some files) with
      | error e => rfl
      | ok o =>
        cases o with
        | none => rfl
        | some sc =>
          have hcond : (sc.rootDir == "" || sameDirectory f sc.rootDir r) =
              (sc.rootDir == "" || sameDirectory env.abs sc.rootDir files.rootDir) := by
            rcases subworkflowCache_root (emptyRootsFirst_nil _) hs with hroot | ⟨hroot, _⟩
            · rw [hroot, hmerge]
            · rw [hroot]
              rfl
          simp only [mergeFileCaches_pair, hcond]
          cases sc.rootDir == "" || sameDirectory env.abs sc.rootDir files.rootDir <;> rfl

/-- after the file stage `RunWorkflow` does not consult `filepath.Abs` and uses the merged cache through its contents only -/
theorem runWorkflow_congr (env : Env P I D) (f : String → String) (fuel : Nat) (files : FileCache) (r name input : String)
    (habs : f r = env.abs files.rootDir)
    (hmerge : sameDirectory f (env.abs files.rootDir) r = sameDirectory env.abs (env.abs files.rootDir) files.rootDir) :
    runWorkflow (withAbs env f) fuel { files with rootDir := r } name input = runWorkflow env fuel files name input := by
  simp only [runWorkflow, parse, parseWith, parseFilesWith_congr env f fuel files r name habs hmerge]
  cases parseFilesWith env true fuel files name <;> rfl
end

end Arca.Proofs.EngineApi
