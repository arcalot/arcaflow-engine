/-
The invariant of the foreach item pool (`Inv`) and the bookkeeping of the `Execute` calls (`RunInv`), kept by every
transition.
-/
import Arca.Model.ForeachPool

namespace Arca.Model.ForeachPool

variable {α β : Type}

theorem countP_set_of_getElem? {γ : Type} {p : γ → Bool} {l : List γ} {i : Nat} {a b : γ} (h : l[i]? = some a) :
    (l.set i b).countP p + (if p a then 1 else 0) = l.countP p + (if p b then 1 else 0) := by
  obtain ⟨hi, ha⟩ := List.getElem?_eq_some_iff.mp h
  rw [List.countP_set hi, ha]
  have pos : p a = true → 0 < l.countP p := fun hp =>
    List.countP_pos_iff.mpr ⟨a, List.mem_of_getElem? h, hp⟩
  by_cases hpa : p a = true
  · have := pos hpa
    simp [hpa]; omega
  · simp [hpa]

theorem set_same_of_getElem? {γ : Type} {l : List γ} {i : Nat} {a : γ} (h : l[i]? = some a) : l.set i a = l := by
  obtain ⟨hi, rfl⟩ := List.getElem?_eq_some_iff.mp h
  exact List.set_getElem_self hi

theorem store_eq (s : PoolState α β) (i : Nat) (o : ItemOutcome β)
    (ho : s.outputs[i]? = some none) (he : s.errors[i]? = some none) :
    store s i o = { s with outputs := s.outputs.set i o.okVal, errors := s.errors.set i o.failMsg } := by
  cases o <;> simp [store, ItemOutcome.okVal, ItemOutcome.failMsg, set_same_of_getElem? ho, set_same_of_getElem? he]

@[simp] theorem store_phase (s : PoolState α β) (i : Nat) (o : ItemOutcome β) : (store s i o).phase = s.phase := by
  cases o <;> rfl
@[simp] theorem store_sem (s : PoolState α β) (i : Nat) (o : ItemOutcome β) : (store s i o).sem = s.sem := by
  cases o <;> rfl
@[simp] theorem store_cancelled (s : PoolState α β) (i : Nat) (o : ItemOutcome β) :
    (store s i o).cancelled = s.cancelled := by
  cases o <;> rfl
@[simp] theorem store_started (s : PoolState α β) (i : Nat) (o : ItemOutcome β) :
    (store s i o).started = s.started := by
  cases o <;> rfl

@[elab_as_elim]
theorem step_cases {P : Pool α β} {s s' : PoolState α β} {t : Tr} {motive : Tr → PoolState α β → Prop}
    (h : step P s t = some s')
    (acquire : ∀ i a, P.xs[i]? = some a → acquireOk P s i →
      motive (.acquire i) { s with phase := s.phase.set i .running, sem := s.sem + 1, started := s.started ++ [(i, a)] })
    (finish : ∀ i a, P.xs[i]? = some a → finishOk s i →
      motive (.finish i) { store s i (P.exec i a) with phase := s.phase.set i .done, sem := s.sem - 1 })
    (cancel : s.cancelled = false → motive .cancel { s with cancelled := true })
    (abort : ∀ i, abortOk s i →
      motive (.abort i) { s with phase := s.phase.set i .aborted, errors := s.errors.set i (some ItemOutcome.abortMsg) }) :
    motive t s' := by
  cases t with
  | acquire i =>
    simp only [step] at h
    split at h
    · cases h
    · split at h
      · cases h; exact acquire i _ ‹_› ‹_›
      · cases h
  | finish i =>
    simp only [step, store_phase, store_sem] at h
    split at h
    · cases h
    · split at h
      · cases h; exact finish i _ ‹_› ‹_›
      · cases h
  | cancel =>
    simp only [step] at h
    split at h
    · cases h
    · cases h; exact cancel (by simpa using ‹¬ s.cancelled = true›)
  | abort i =>
    simp only [step] at h
    split at h
    · cases h; exact abort i ‹_›
    · cases h

def enabled (P : Pool α β) (s : PoolState α β) : Tr → Prop
  | .acquire i => acquireOk P s i
  | .finish i => finishOk s i
  | .cancel => s.cancelled = false
  | .abort i => abortOk s i

theorem enabled_of_step {P : Pool α β} {s s' : PoolState α β} {t : Tr} (h : step P s t = some s') : enabled P s t :=
  step_cases h (fun _ _ _ hok => hok) (fun _ _ _ hok => hok) id (fun _ hok => hok)

theorem runSched_induction {P : Pool α β} {s' : PoolState α β} {motive : PoolState α β → List Tr → Prop}
    (nil : motive s' [])
    (cons : ∀ {s s₁ t ts}, step P s t = some s₁ → runSched P s₁ ts = some s' → motive s₁ ts → motive s (t :: ts))
    {s : PoolState α β} {sched : List Tr} (h : runSched P s sched = some s') : motive s sched := by
  induction sched generalizing s with
  | nil => cases h; exact nil
  | cons t ts ih =>
    simp only [runSched] at h
    split at h
    · cases h
    · exact cons ‹_› h (ih h)

theorem runSched_preserves {P : Pool α β} {Q : PoolState α β → Prop}
    (hstep : ∀ {s s₁ t}, Q s → step P s t = some s₁ → Q s₁)
    {s s' : PoolState α β} {sched : List Tr} (h : runSched P s sched = some s') (hQ : Q s) : Q s' :=
  runSched_induction (motive := fun s _ => Q s → Q s') id (fun h₁ _ ih hQ => ih (hstep hQ h₁)) h hQ

structure Inv (P : Pool α β) (s : PoolState α β) : Prop where
  lenPhase : s.phase.length = P.n
  lenOut : s.outputs.length = P.n
  lenErr : s.errors.length = P.n
  /-- a channel never holds more than its capacity -/
  semLe : s.sem ≤ P.p
  doneRes : ∀ i a, P.xs[i]? = some a → s.phase[i]? = some .done →
    s.outputs[i]? = some (P.exec i a).okVal ∧ s.errors[i]? = some (P.exec i a).failMsg
  abortedRes : ∀ (i : Nat), s.phase[i]? = some Phase.aborted →
    s.outputs[i]? = some none ∧ s.errors[i]? = some (some ItemOutcome.abortMsg)
  liveRes : ∀ i, i < P.n → (s.phase[i]? = some .pending ∨ s.phase[i]? = some .running) →
    s.outputs[i]? = some none ∧ s.errors[i]? = some none
  /-- also after cancellation -/
  semRunning : running s = s.sem
  noAbort : s.cancelled = false → s.phase.countP (fun ph => ph == .aborted) = 0

theorem inv_init (P : Pool α β) : Inv P (init P) := by
  refine ⟨by simp [init], by simp [init], by simp [init], by simp [init], ?_, ?_, ?_, ?_, ?_⟩
  · intro i a _ h
    simp [init, List.getElem?_replicate] at h
  · intro i h
    simp [init, List.getElem?_replicate] at h
  · intro i hi _
    simp [init, hi]
  · simp [init, running, List.countP_replicate, isRunning]
  · intro _
    simp [init, List.countP_replicate]

theorem lt_of_phase {P : Pool α β} {s : PoolState α β} (hI : Inv P s) {i : Nat} {ph : Phase}
    (h : s.phase[i]? = some ph) : i < P.n := by
  obtain ⟨hi, _⟩ := List.getElem?_eq_some_iff.mp h
  rw [← hI.lenPhase]; exact hi

/-- what `doneRes` / `abortedRes` / `liveRes` say of an item in phase `ph`, as one function -/
def slots (r : ItemOutcome β) : Phase → Option β × Option String
  | .done => (r.okVal, r.failMsg)
  | .aborted => (none, some ItemOutcome.abortMsg)
  | _ => (none, none)

/-- all that a transition other than `cancel` does -/
theorem inv_move {P : Pool α β} {s : PoolState α β} (hI : Inv P s) {i : Nat} {x : α} {a : Phase} (b : Phase)
    (hx : P.xs[i]? = some x) (hph : s.phase[i]? = some a) (hlive : a = .pending ∨ a = .running)
    {sem' : Nat} (st : List (Nat × α))
    (hsem : sem' + (if isRunning a then 1 else 0) = s.sem + (if isRunning b then 1 else 0)) (hle : sem' ≤ P.p)
    (hab : b = .aborted → s.cancelled = true) :
    Inv P { s with phase := s.phase.set i b, sem := sem', started := st
                   outputs := s.outputs.set i (slots (P.exec i x) b).1
                   errors := s.errors.set i (slots (P.exec i x) b).2 } := by
  have hi : i < P.n := (List.getElem?_eq_some_iff.mp hx).1
  have hio : i < s.outputs.length := hI.lenOut ▸ hi
  have hie : i < s.errors.length := hI.lenErr ▸ hi
  -- an index whose new phase is `ph` is `i` itself, with `ph = b` and the new slots, or had `ph` and its slots before
  have split : ∀ {j : Nat} {ph : Phase} {o : Option β} {e : Option String}, (s.phase.set i b)[j]? = some ph →
      (i = j → b = ph → slots (P.exec i x) b = (o, e)) →
      (s.phase[j]? = some ph → s.outputs[j]? = some o ∧ s.errors[j]? = some e) →
      (s.outputs.set i (slots (P.exec i x) b).1)[j]? = some o ∧
        (s.errors.set i (slots (P.exec i x) b).2)[j]? = some e := by
    intro j ph o e h hnew hold
    by_cases hij : i = j
    · subst hij
      rw [List.getElem?_set_self (hI.lenPhase ▸ hi)] at h
      rw [List.getElem?_set_self hio, List.getElem?_set_self hie, hnew rfl (Option.some.inj h)]; exact ⟨rfl, rfl⟩
    · rw [List.getElem?_set_ne hij] at h
      rw [List.getElem?_set_ne hij, List.getElem?_set_ne hij]; exact hold h
  refine ⟨by simp [hI.lenPhase], by simp [hI.lenOut], by simp [hI.lenErr], hle, ?_, ?_, ?_, ?_, ?_⟩
  · intro j y hy hd
    refine split hd (fun hij hb => ?_) (hI.doneRes j y hy)
    subst hij hb
    rw [hx] at hy; cases hy; rfl
  · intro j hd
    exact split hd (fun _ hb => by subst hb; rfl) (hI.abortedRes j)
  · intro j hj hl
    rcases hl with hl | hl
    · exact split hl (fun _ hb => by subst hb; rfl) (fun h => hI.liveRes j hj (.inl h))
    · exact split hl (fun _ hb => by subst hb; rfl) (fun h => hI.liveRes j hj (.inr h))
  · have h1 := countP_set_of_getElem? (p := isRunning) (b := b) hph
    have hr := hI.semRunning
    simp only [running] at hr ⊢
    omega
  · intro hc
    show (s.phase.set i b).countP _ = 0
    have h2 := countP_set_of_getElem? (p := fun ph => ph == .aborted) (b := b) hph
    have ha := hI.noAbort hc
    have hba : (b == Phase.aborted) = false := by
      cases hbb : b == Phase.aborted
      · rfl
      · rw [hab (by simpa using hbb)] at hc; cases hc
    rcases hlive with rfl | rfl <;> simp [hba] at h2 <;> omega

theorem inv_step {P : Pool α β} {s s' : PoolState α β} (hI : Inv P s) {t : Tr} (h : step P s t = some s') :
    Inv P s' := by
  refine step_cases h ?_ ?_ ?_ ?_
  · intro i a ha hok
    obtain ⟨ho, he⟩ := hI.liveRes i (lt_of_phase hI hok.1) (.inl hok.1)
    have := inv_move hI .running ha hok.1 (.inl rfl) (s.started ++ [(i, a)]) (sem' := s.sem + 1) (by simp [isRunning])
      hok.2 (fun h => nomatch h)
    -- `inv_move` writes both slots; what it writes here is there already (`liveRes`)
    rwa [show slots (P.exec i a) .running = (none, none) from rfl, set_same_of_getElem? ho, set_same_of_getElem? he] at this
  · intro i a ha hok
    obtain ⟨ho, he⟩ := hI.liveRes i (lt_of_phase hI hok.1) (.inr hok.1)
    rw [store_eq s i _ ho he]
    have hsem := hI.semLe
    have hpos := hok.2
    exact inv_move hI .done ha hok.1 (.inr rfl) s.started (sem' := s.sem - 1) (by simp [isRunning]; omega) (by omega)
      (fun h => nomatch h)
  · intro _
    exact { hI with noAbort := fun h => nomatch h }
  · intro i hok
    have hi := lt_of_phase hI hok.1
    obtain ⟨ho, _⟩ := hI.liveRes i hi (.inl hok.1)
    have := inv_move hI .aborted (List.getElem?_eq_getElem hi) hok.1 (.inl rfl) s.started (sem' := s.sem)
      (by simp [isRunning]) hI.semLe (fun _ => hok.2)
    rwa [show slots (P.exec i (P.xs[i]'hi)) .aborted = (none, some ItemOutcome.abortMsg) from rfl,
      set_same_of_getElem? ho] at this

theorem inv_runSched {P : Pool α β} {s s' : PoolState α β} (hI : Inv P s) {sched : List Tr}
    (h : runSched P s sched = some s') : Inv P s' :=
  runSched_preserves (fun hI h₁ => inv_step hI h₁) h hI

theorem inv_reachable {P : Pool α β} {s : PoolState α β} (h : Reachable P s) : Inv P s := by
  obtain ⟨sched, hs⟩ := h
  exact inv_runSched (inv_init P) hs

def execCount (s : PoolState α β) (i : Nat) : Nat := s.started.countP (fun e => e.1 == i)

structure RunInv (P : Pool α β) (s : PoolState α β) : Prop where
  ownInput : ∀ e ∈ s.started, P.xs[e.1]? = some e.2
  once : ∀ i, execCount s i = if s.phase[i]? = some .running ∨ s.phase[i]? = some .done then 1 else 0

theorem runInv_init (P : Pool α β) : RunInv P (init P) := by
  refine ⟨by simp [init], ?_⟩
  intro i
  simp only [execCount, init, List.countP_nil, List.getElem?_replicate]
  split <;> simp

theorem runInv_step {P : Pool α β} {s s' : PoolState α β} (hR : RunInv P s) {t : Tr} (h : step P s t = some s') :
    RunInv P s' := by
  -- `once` in a state `s₁` in which item `i` has moved from phase `a` to `b` and was started `k` more times
  have move : ∀ {i : Nat} {a : Phase} (b : Phase) (k : Nat) (s₁ : PoolState α β), s.phase[i]? = some a →
      s₁.phase = s.phase.set i b → (∀ j, execCount s₁ j = execCount s j + if i = j then k else 0) →
      ((if a = .running ∨ a = .done then 1 else 0) + k = if b = .running ∨ b = .done then 1 else 0) →
      ∀ j, execCount s₁ j = if s₁.phase[j]? = some .running ∨ s₁.phase[j]? = some .done then 1 else 0 := by
    intro i a b k s₁ hph hp hst hk j
    rw [hst j, hR.once j, hp, List.getElem?_set]
    by_cases hij : i = j
    · subst hij
      simp only [hph, (List.getElem?_eq_some_iff.mp hph).1, if_true, Option.some.injEq] at hk ⊢
      exact hk
    · simp only [hij, if_false, Nat.add_zero]
  refine step_cases h ?_ ?_ ?_ ?_
  · intro i a ha hok
    refine ⟨fun e he => ?_, move .running 1 _ hok.1 rfl (fun j => ?_) (by simp)⟩
    · rcases List.mem_append.mp he with h1 | h1
      · exact hR.ownInput e h1
      · cases List.mem_singleton.mp h1; exact ha
    · by_cases hij : i = j <;> simp [execCount, List.countP_append, hij]
  · intro i a _ hok
    exact ⟨by simpa using hR.ownInput, move .done 0 _ hok.1 rfl (fun j => by simp [execCount]) (by simp)⟩
  · intro _
    exact ⟨hR.ownInput, hR.once⟩
  · intro i hok
    exact ⟨hR.ownInput, move .aborted 0 _ hok.1 rfl (fun j => by simp [execCount]) (by simp)⟩

theorem runInv_runSched {P : Pool α β} {s s' : PoolState α β} (hR : RunInv P s) {sched : List Tr}
    (h : runSched P s sched = some s') : RunInv P s' :=
  runSched_preserves (fun hR h₁ => runInv_step hR h₁) h hR

theorem step_cancelled {P : Pool α β} {s s' : PoolState α β} {t : Tr} (h : step P s t = some s') :
    s'.cancelled = true ↔ s.cancelled = true ∨ t = .cancel := by
  refine step_cases h ?_ ?_ ?_ ?_ <;> intros <;> simp

theorem cancelled_runSched_iff {P : Pool α β} {s s' : PoolState α β} {sched : List Tr}
    (h : runSched P s sched = some s') : s'.cancelled = true ↔ s.cancelled = true ∨ Tr.cancel ∈ sched := by
  refine runSched_induction (motive := fun s sched => s'.cancelled = true ↔ s.cancelled = true ∨ Tr.cancel ∈ sched)
    (by simp) ?_ h
  intro s s₁ t ts h₁ _ ih
  rw [ih, step_cancelled h₁, List.mem_cons, or_assoc, eq_comm (a := t)]

theorem cancelled_runSched {P : Pool α β} {s s' : PoolState α β} {sched : List Tr}
    (h : runSched P s sched = some s') (hc : s.cancelled = true) : s'.cancelled = true :=
  (cancelled_runSched_iff h).mpr (.inl hc)

theorem uncancelled_runSched {P : Pool α β} {s s' : PoolState α β} {sched : List Tr}
    (h : runSched P s sched = some s') (hc : s.cancelled = false) (hn : ∀ t ∈ sched, t ≠ Tr.cancel) :
    s'.cancelled = false :=
  Bool.eq_false_iff.mpr fun hc' => ((cancelled_runSched_iff h).mp hc').elim (by simp [hc]) (fun hm => hn _ hm rfl)

theorem runSched_append {P : Pool α β} {s s1 : PoolState α β} {a b : List Tr} (h : runSched P s a = some s1) :
    runSched P s (a ++ b) = runSched P s1 b := by
  refine runSched_induction (motive := fun s a => runSched P s (a ++ b) = runSched P s1 b) rfl ?_ h
  intro s s₁ t ts h₁ _ ih
  simp only [List.cons_append, runSched, h₁, ih]

end Arca.Model.ForeachPool
