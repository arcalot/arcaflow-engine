/-
Graph-level facts behind the completeness theorems of the run loop (`LoopComplete.lean`, C01 / C03): `Graph.Adv`,
`Graph.UJ`, and induction along the edges of an acyclic graph (`Graph.dag_induction`).
-/
import Arca.Proofs.DgraphInv

set_option linter.unusedSectionVars false

namespace Arca.Model

variable {ι : Type} [DecidableEq ι]

/-- nothing that becomes processable is forgotten by `dependencyResolved`: the converse of `Graph.Inv.ready_ok`
("ready ⇒ no hard dependency outstanding") -/
structure Graph.Adv (g g' : Graph ι) : Prop where
  ready : ∀ x ∈ g.ready, x ∈ g'.ready
  node : ∀ x n', g'.find? x = some n' → ∃ n, g.find? x = some n ∧
    (n'.status = St.waiting → allSoft n'.out → x ∈ g'.ready ∨ (n.status = St.waiting ∧ allSoft n.out)) ∧
    (n'.status = St.unres → x ∈ g'.ready ∨ n.status = St.unres)

theorem Graph.Adv.refl (g : Graph ι) : g.Adv g :=
  ⟨fun _ h => h, fun _ n' hn => ⟨n', hn, fun h1 h2 => Or.inr ⟨h1, h2⟩, fun h => Or.inr h⟩⟩

theorem Graph.Adv.trans {a b c : Graph ι} (h1 : a.Adv b) (h2 : b.Adv c) : a.Adv c := by
  refine ⟨fun x hx => h2.ready x (h1.ready x hx), ?_⟩
  intro x n2 hn2
  obtain ⟨n1, hn1, hw1, hu1⟩ := h2.node x n2 hn2
  obtain ⟨n0, hn0, hw0, hu0⟩ := h1.node x n1 hn1
  refine ⟨n0, hn0, ?_, ?_⟩
  · intro hw hs
    rcases hw1 hw hs with h | ⟨h3, h4⟩
    · exact Or.inl h
    · rcases hw0 h3 h4 with h | h
      · exact Or.inl (h2.ready x h)
      · exact Or.inr h
  · intro hu
    rcases hu1 hu with h | h
    · exact Or.inl h
    · rcases hu0 h with h | h
      · exact Or.inl (h2.ready x h)
      · exact Or.inr h

theorem Graph.depResolved_adv {g g' : Graph ι} {t s : ι} {st : St} {turned : Bool}
    (hnd : ∀ n, g.find? t = some n → (keys n.out).Nodup)
    (h : g.depResolved t s st = .ok (g', turned)) : g.Adv g' := by
  obtain ⟨n, dt, n', r', hn, hst, hdt, rfl, hstep⟩ := Graph.depResolved_ok h
  have hnid : n.id = t := (Graph.find?_some hn).2
  refine ⟨fun x hx => ?_, fun x m hm => ?_⟩
  · rcases hstep.ready_cases with ⟨h1, _⟩ | ⟨h1, _⟩ <;> rw [h1]
    · exact hx
    · exact mem_insertSet.2 (.inr hx)
  rw [hstep.find? hn] at hm
  split at hm
  · next hxt =>
    subst hxt
    cases hm
    refine ⟨n, hn, ?_⟩
    rcases hstep.ready_cases with ⟨_, h2, h3, h4⟩ | ⟨h1, _, _⟩
    · -- not marked ready: if the target is all-soft now, the entry was soft and the target all-soft before
      refine ⟨fun hw hsoft => .inr ⟨h2 ▸ hw, fun p hp => ?_⟩, fun hu => .inr (h2 ▸ hu)⟩
      have hh : dt.hard = false := eq_false_of_ne_true fun hh => h4 hh hsoft
      by_cases hps : p.1 = s
      · rw [alookup_unique (hnd n hn) hdt hp hps]
        exact hh
      · exact hsoft p (h3 hh ▸ mem_aerase.2 ⟨hp, hps⟩)
    · have hr : x ∈ r' := h1 ▸ hnid ▸ mem_insertSet.2 (.inl rfl)
      exact ⟨fun _ _ => .inl hr, fun _ => .inl hr⟩
  · exact ⟨m, hm, fun h1 h2 => Or.inr ⟨h1, h2⟩, fun h => Or.inr h⟩

theorem Graph.resolve_adv {g g' : Graph ι} {id : ι} {st : St} (hinv : g.Inv) (hok : g.resolve id st = .ok g') :
    (∀ x ∈ g.ready, x ∈ g'.ready) ∧
    ∀ x n', g'.find? x = some n' → x ≠ id → ∃ n, g.find? x = some n ∧
      (n'.status = St.waiting → allSoft n'.out → x ∈ g'.ready ∨ (n.status = St.waiting ∧ allSoft n.out)) ∧
      (n'.status = St.unres → x ∈ g'.ready ∨ n.status = St.unres) := by
  obtain ⟨m, hm, ⟨hg, _, _⟩ | ⟨hw, hst, hp⟩⟩ := Graph.resolve_cases hok
  · rw [hg]
    exact ⟨fun _ h => h, fun x n' hn _ => (Graph.Adv.refl g).node x n' hn⟩
  · have ha := hinv.setStatus hm hw hst
    have hadv := (Graph.propagate_induction
      (P := fun g1 ms => g1.Aux ms ∧ (g.setNode { m with status := st }).Adv g1)
      (fun ⟨a, v⟩ hd => ⟨a.depResolved hd,
        v.trans (Graph.depResolved_adv (fun n hn => (a.node_ok _ n hn).out_nodup) hd)⟩)
      ⟨ha, Graph.Adv.refl _⟩ hp).2
    refine ⟨hadv.ready, fun x n' hn' hx => ?_⟩
    obtain ⟨n, hn, h1, h2⟩ := hadv.node x n' hn'
    rw [Graph.find?_setStatus hm st, if_neg hx] at hn
    exact ⟨n, hn, h1, h2⟩

theorem Graph.resolve_sink {g : Graph ι} {id : ι} {st : St} {n : Node ι} (hn : g.find? id = some n)
    (hw : n.status = St.waiting) (hst : st ≠ St.waiting) (hsink : g.succs id = []) :
    g.resolve id st = .ok (g.setNode { n with status := st }) := by
  rw [Graph.resolve_waiting hn hw hst, hsink]
  rfl

/-- the rank is the round in which the Kahn elimination removes the node -/
theorem hasCyclesAux_rank (f : Nat) : ∀ (remaining : List ι) (edges : List (ι × ι × Dep)),
    (∀ e ∈ edges, e.1 ∈ remaining ∧ e.2.1 ∈ remaining) →
    Graph.hasCyclesAux f remaining edges = false →
    ∃ rank : ι → Nat, ∀ e ∈ edges, rank e.1 < rank e.2.1 := by
  induction f with
  | zero =>
    intro remaining edges hen h
    simp only [Graph.hasCyclesAux, Bool.not_eq_eq_eq_not, Bool.not_false, List.isEmpty_iff] at h
    subst h
    exact ⟨fun _ => 0, fun e he => nomatch (hen e he).1⟩
  | succ f ih =>
    intro remaining edges hen h
    simp only [Graph.hasCyclesAux] at h
    split at h
    · simp only [Bool.not_eq_eq_eq_not, Bool.not_false, List.isEmpty_iff] at h
      subst h
      exact ⟨fun _ => 0, fun e he => nomatch (hen e he).1⟩
    · generalize hfree : remaining.filter (fun n => !(edges.any (fun e => e.2.1 = n))) = free at h
      have hnotfree : ∀ e ∈ edges, e.2.1 ∉ free := by
        intro e he hm
        rw [← hfree, List.mem_filter] at hm
        have := hm.2
        simp only [Bool.not_eq_eq_eq_not, Bool.not_true, List.any_eq_false, decide_eq_true_eq] at this
        exact this e he rfl
      obtain ⟨rank', hr⟩ := ih _ _ (by
        intro e he
        simp only [List.mem_filter, decide_eq_true_eq] at he ⊢
        exact ⟨⟨(hen e he.1).1, he.2.1⟩, ⟨(hen e he.1).2, he.2.2⟩⟩) h
      refine ⟨fun x => if x ∈ free then 0 else rank' x + 1, ?_⟩
      intro e he
      have h2 := hnotfree e he
      simp only [h2, ↓reduceIte]
      by_cases h1 : e.1 ∈ free
      · simp only [h1, ↓reduceIte]; omega
      · simp only [h1, ↓reduceIte]
        have := hr e (by
          simp only [List.mem_filter, decide_eq_true_eq]
          exact ⟨he, h1, h2⟩)
        omega

theorem Graph.acyclic_rank {g : Graph ι} (hen : ∀ e ∈ g.edges, g.has e.1 = true ∧ g.has e.2.1 = true)
    (hc : g.hasCycles = false) : ∃ rank : ι → Nat, ∀ e ∈ g.edges, rank e.1 < rank e.2.1 :=
  hasCyclesAux_rank _ _ _ (fun e he => (hen e he).imp Graph.has_iff_mem_ids.1 Graph.has_iff_mem_ids.1) hc

theorem Graph.dag_induction {g : Graph ι} (hen : ∀ e ∈ g.edges, g.has e.1 = true ∧ g.has e.2.1 = true)
    (hc : g.hasCycles = false) (Q : ι → Prop) (hstep : ∀ x, (∀ e ∈ g.edges, e.2.1 = x → Q e.1) → Q x) :
    ∀ x, Q x := by
  obtain ⟨rank, hr⟩ := Graph.acyclic_rank hen hc
  intro x
  induction hk : rank x using Nat.strongRecOn generalizing x with
  | ind k ih => exact hstep x fun e he hex => ih _ (hk ▸ hex ▸ hr e he) _ rfl

/-- node `x` has a failed required dependency -/
def Graph.Just (g : Graph ι) (x : ι) : Prop :=
  (∃ e ∈ g.edges, e.2.1 = x ∧ e.2.2 = Dep.and ∧ ∃ m, g.find? e.1 = some m ∧ m.status = St.unres) ∨
  ((∃ e ∈ g.edges, e.2.1 = x ∧ e.2.2 = Dep.or) ∧
    ∀ e ∈ g.edges, e.2.1 = x → e.2.2 = Dep.or → ∃ m, g.find? e.1 = some m ∧ m.status = St.unres)

/-- every unresolvable node outside `ex` (the nodes that are failed explicitly) has a failed required dependency -/
def Graph.UJ (g : Graph ι) (ex : ι → Prop) : Prop :=
  ∀ x n, g.find? x = some n → ¬ ex x → n.status = St.unres → g.Just x

theorem Graph.Just.mono {g g' : Graph ι} {x : ι} (h : g.Just x) (hed : g'.edges = g.edges)
    (hst : ∀ y m, g.find? y = some m → m.status = St.unres → ∃ m', g'.find? y = some m' ∧ m'.status = St.unres) :
    g'.Just x := by
  rcases h with ⟨e, he, h1, h2, m, hm, hs⟩ | ⟨⟨e, he, h1, h2⟩, hall⟩
  · exact Or.inl ⟨e, hed ▸ he, h1, h2, hst _ m hm hs⟩
  · refine Or.inr ⟨⟨e, hed ▸ he, h1, h2⟩, ?_⟩
    intro e' he' h1' h2'
    rw [hed] at he'
    obtain ⟨m, hm, hs⟩ := hall e' he' h1' h2'
    exact hst _ m hm hs

theorem Graph.depResolved_unres_keep {g g' : Graph ι} {t s : ι} {st : St} {turned : Bool}
    (h : g.depResolved t s st = .ok (g', turned)) (y : ι) (m : Node ι) (hm : g.find? y = some m)
    (hs : m.status = St.unres) : ∃ m', g'.find? y = some m' ∧ m'.status = St.unres :=
  ((Graph.depResolved_keeps h).status hm (by rw [hs]; nofun)).imp fun _ h => ⟨h.1, h.2.trans hs⟩

theorem Graph.depResolved_unres {g g' : Graph ι} {t s : ι} {st : St} {turned : Bool}
    (h : g.depResolved t s st = .ok (g', turned)) {x : ι} {n' : Node ι} (hn : g'.find? x = some n')
    (hs : n'.status = St.unres) : (∃ n, g.find? x = some n ∧ n.status = St.unres) ∨ (x = t ∧ turned = true) := by
  obtain ⟨m, dt, m', r', hm, _, _, rfl, hstep⟩ := Graph.depResolved_ok h
  obtain ⟨_, _, _, hstatus⟩ := hstep.facts
  rw [hstep.find? hm] at hn
  split at hn
  · next hxt =>
    cases hn
    rcases hstatus with ⟨_, h2⟩ | ⟨h1, _, _⟩
    · exact Or.inl ⟨m, hxt ▸ hm, h2 ▸ hs⟩
    · exact Or.inr ⟨hxt, h1⟩
  · exact Or.inl ⟨n', hn, hs⟩

theorem Graph.Aux.depResolved_just {g g1 : Graph ι} {t s : ι} {st : St} {rest : List (ι × ι × St)}
    (h : g.Aux ((t, s, st) :: rest)) (hd : g.depResolved t s st = .ok (g1, true)) : g1.Just t := by
  have hkeep := Graph.depResolved_unres_keep hd
  obtain ⟨n, dt, n', r', hn, hst, hdt, rfl, hstep⟩ := Graph.depResolved_ok hd
  have hs : (s, dt) ∈ n.out := alookup_some_mem hdt
  have hnid : n.id = t := (Graph.find?_some hn).2
  obtain ⟨_, ms, hms, hmss⟩ := h.msg_st _ List.mem_cons_self
  have hok := h.node_ok t n hn
  obtain ⟨rfl, hdtc, _⟩ := hstep.of_turned
  obtain ⟨d, hed, hentry⟩ := hok.out_edge _ hs
  rw [hnid] at hed
  rcases hdtc with rfl | ⟨rfl, hno⟩
  · obtain rfl : d = Dep.and := entryOk_left hentry nofun
    exact Or.inl ⟨_, hed, rfl, rfl, hkeep s ms hms hmss⟩
  · obtain rfl : d = Dep.or := entryOk_left hentry nofun
    refine Or.inr ⟨⟨_, hed, rfl, rfl⟩, fun e he he2 hor => ?_⟩
    have he : e ∈ g.edges := he
    obtain ⟨m, hm⟩ := Graph.has_iff.1 (h.edge_nodes e he).1
    suffices hmu : m.status = St.unres from hkeep _ m hm hmu
    by_cases hes : e.1 = s
    · exact Graph.find?_unique hms (hes ▸ hm) ▸ hmss
    -- another member of the group is not listed any more: no entry has the type `or` (the last one was that of
    -- `s`), and no resolved member is recorded while the entry of `s` still has the type `or`
    have hnl : ¬ (e.1 ∈ keys n.out ∨ e.1 ∈ keys n.res) := fun hk => by
      rcases hok.or_entry h.edges_nodup he (he2.trans hnid.symm) hor hk with ⟨p, hp, hp1, hp2⟩ | ⟨q, hq, hq2⟩
      · exact hasDep_false_iff.1 hno p (mem_aerase.2 ⟨hp, hp1 ▸ hes⟩) hp2
      · exact hok.or_excl ⟨q, hq, hq2⟩ _ hs rfl
    rcases h.e_done e he m n hm (he2 ▸ hn) fun hin => hnl (.inl hin) with ⟨_, hr⟩ | ⟨hu, _⟩
    · exact absurd (.inr hr) hnl
    · exact hu

theorem Graph.resolve_uj {g g' : Graph ι} {id : ι} {st : St} {ex : ι → Prop} (hinv : g.Inv) (huj : g.UJ ex)
    (hok : g.resolve id st = .ok g') (hex : st = St.unres → ex id) : g'.UJ ex := by
  have hold : ∀ x n, g.find? x = some n → ¬ ex x → n.status = St.unres → g'.Just x := fun x n hn hnex hs =>
    (huj x n hn hnex hs).mono (Graph.resolve_frame g g' id st hok).1 fun y m hm hmu =>
      (Graph.resolve_status hok hm (by rw [hmu]; nofun)).imp fun _ h => ⟨h.1, h.2.trans hmu⟩
  obtain ⟨m, hm, ⟨hg, _, _⟩ | ⟨hw, hst, hp⟩⟩ := Graph.resolve_cases hok
  · exact fun x n' hn' hnex hu => hold x n' (hg ▸ hn') hnex hu
  · have ha := hinv.setStatus hm hw hst
    have hprop := (Graph.propagate_induction
      (P := fun g1 ms => g1.Aux ms ∧ ∀ x n', g1.find? x = some n' → n'.status = St.unres →
        (∃ n, (g.setNode { m with status := st }).find? x = some n ∧ n.status = St.unres) ∨ g1.Just x)
      (fun ⟨a, v⟩ hd => ⟨a.depResolved hd, fun x n' hn' hu => by
        rcases Graph.depResolved_unres hd hn' hu with ⟨n1, hn1, hs1⟩ | ⟨rfl, rfl⟩
        · exact (v x n1 hn1 hs1).imp_right fun hj =>
            hj.mono (Graph.depResolved_keeps hd).edges (Graph.depResolved_unres_keep hd)
        · exact .inr (a.depResolved_just hd)⟩)
      ⟨ha, fun x n' hn hs => .inl ⟨n', hn, hs⟩⟩ hp).2
    intro x n' hn' hnex hu
    rcases hprop x n' hn' hu with ⟨n1, hn1, hs1⟩ | hj
    · rw [Graph.find?_setStatus hm st] at hn1
      split at hn1
      · next hx => cases hn1; exact absurd (hx ▸ hex hs1) hnex
      · exact hold x n1 hn1 hnex hs1
    · exact hj

/-- the converse of `UJ`, from `Inv.and_unres` / `Inv.or_unres`: a node with a failed required dependency is
unresolvable -/
theorem Graph.Just.not_resolved {g : Graph ι} (hinv : g.Inv) {x : ι} {n : Node ι} (hn : g.find? x = some n)
    (hj : g.Just x) : n.status = St.unres := by
  obtain ⟨hnm, hnid⟩ := Graph.find?_some hn
  rcases hj with ⟨e, he, h1, h2, m, hm, hs⟩ | ⟨⟨e, he, h1, h2⟩, hall⟩
  · exact hinv.and_unres e he h2 m n hm (h1 ▸ hn) hs
  · refine hinv.or_unres n hnm ⟨e, he, h1.trans hnid.symm, h2⟩ ?_
    intro e' he' h1' h2' m hm
    obtain ⟨m', hm', hs'⟩ := hall e' he' (h1'.trans hnid) h2'
    rw [hm] at hm'; cases hm'
    exact hs'

end Arca.Model
