/-
The lock-balance checker evaluated by the kernel on the facts regenerated from /repo on every run.
`Arca.Gen.Locks.lockFunctions` is EVERY function of the run-loop and provider packages that calls `X.Lock()` (computed
from the source, not a list of names): a change that leaves a mutex locked on some path to a return, unlocks it twice,
registers the deferred unlock after an early return, or moves the pair into a new helper that does so, makes
`all_locks_released_on_every_path` false on the next run.  Nothing here meets the trace model of C17
(`Arca.Model.Lockset`): that a trace is well formed stays a hypothesis there.
-/
import Arca.Proofs.LockBalance
import Arca.Proofs.SkelUtil
import Arca.Gen.Locks
import Arca.Gen.Skel

namespace Arca.Proofs.LockFacts
open Arca.Model.LockBalance

/-- the skeleton (split form) of a function of `lockFunctions`; `[]` if it is not listed — and `balanced m [] = true`: a
    verdict on `toksOf name` says something only beside `lockCalls … = 1` or the re-join equation for that name -/
def toksOf (name : String) : List SplitTok :=
  match Arca.Gen.Locks.lockFunctions.find? (fun f => f.1 == name) with
  | some f => f.2.2.2
  | none => []

/-- all (function, mutex, skeleton) triples: one per mutex expression a function locks -/
def lockPairs : List (String × String × List SplitTok) :=
  Arca.Gen.Locks.lockFunctions.flatMap (fun f => f.2.2.1.map (fun m => (f.1, m, f.2.2.2)))

/-- the ONE pair that is not balanced in the current source: `Execute` takes the run lock `l.lock` before the loop that
    starts the steps and returns from inside that loop, when `runnableStep.Start` fails, without releasing it (and before
    `defer l.terminateAllSteps()` is registered).  `l` is the state of this run only, so no later run is affected; the
    handlers of the steps started so far would block on it.  (`Arca.Props.C05.run_closes_all` covers only the exits after
    the start loop.) -/
def knownUnbalanced : List (String × String) :=
  [("workflow_workflow_executableWorkflow_Execute", "l.lock")]

theorem heads_agree : Arca.Gen.Locks.tokenHeads = tokHeads := rfl

theorem all_well_split : Arca.Gen.Locks.lockFunctions.all (fun f => wellSplit f.2.2.2) = true := by decide +kernel

theorem wellSplit_toksOf (name : String) : wellSplit (toksOf name) = true := by
  unfold toksOf
  split
  · exact List.all_eq_true.mp all_well_split _ (List.mem_of_find?_eq_some ‹_›)
  · rfl

theorem no_labeled_jumps : Arca.Gen.Locks.labeledJumps = [] := rfl

/-- `toksOf` with names compared as numbers (`SkelUtil.beq_eq_code`): `tables_checked` looks up 23 names that begin alike -/
def toksOfCode (c : Nat) : List SplitTok :=
  match Arca.Gen.Locks.lockFunctions.find? (fun f => Arca.Proofs.SkelUtil.code f.1 == c) with
  | some f => f.2.2.2
  | none => []

theorem toksOf_code (name : String) : toksOf name = toksOfCode (Arca.Proofs.SkelUtil.code name) := by
  simp only [toksOf, toksOfCode, Arca.Proofs.SkelUtil.beq_eq_code]

open Arca.Gen.Skel in
/-- kept by hand: the functions of `lockFunctions` that have a skeleton in `Arca.Gen.Skel`; a new one is one more equation -/
abbrev SplitFormIsSkeleton : Prop :=
    (toksOf "workflow_workflow_executableWorkflow_Execute").map join = workflow_workflow_executableWorkflow_Execute ∧
    (toksOf "workflow_workflow_loopState_onStageComplete").map join = workflow_workflow_loopState_onStageComplete ∧
    (toksOf "step_plugin_provider_runningStep_ProvideStageInput").map join =
      step_plugin_provider_runningStep_ProvideStageInput ∧
    (toksOf "step_foreach_provider_runningStep_ProvideStageInput").map join =
      step_foreach_provider_runningStep_ProvideStageInput ∧
    (toksOf "workflow_workflow_loopState_checkForDeadlocks").map join = workflow_workflow_loopState_checkForDeadlocks ∧
    (toksOf "step_plugin_provider_runningStep_State").map join = step_plugin_provider_runningStep_State ∧
    (toksOf "step_plugin_provider_runningStep_CurrentStage").map join = step_plugin_provider_runningStep_CurrentStage ∧
    (toksOf "step_plugin_provider_runningStep_closeComponents").map join =
      step_plugin_provider_runningStep_closeComponents ∧
    (toksOf "step_plugin_provider_runningStep_closedEarly").map join = step_plugin_provider_runningStep_closedEarly ∧
    (toksOf "step_plugin_provider_runningStep_completeStep").map join = step_plugin_provider_runningStep_completeStep ∧
    (toksOf "step_plugin_provider_runningStep_deployStage").map join = step_plugin_provider_runningStep_deployStage ∧
    (toksOf "step_plugin_provider_runningStep_enableStage").map join = step_plugin_provider_runningStep_enableStage ∧
    (toksOf "step_plugin_provider_runningStep_runStage").map join = step_plugin_provider_runningStep_runStage ∧
    (toksOf "step_plugin_provider_runningStep_startPlugin").map join = step_plugin_provider_runningStep_startPlugin ∧
    (toksOf "step_plugin_provider_runningStep_startStage").map join = step_plugin_provider_runningStep_startStage ∧
    (toksOf "step_plugin_provider_runningStep_transitionFromFailedStage").map join =
      step_plugin_provider_runningStep_transitionFromFailedStage ∧
    (toksOf "step_plugin_provider_runningStep_transitionStageWithOutput").map join =
      step_plugin_provider_runningStep_transitionStageWithOutput ∧
    (toksOf "step_foreach_provider_runningStep_State").map join = step_foreach_provider_runningStep_State ∧
    (toksOf "step_foreach_provider_runningStep_CurrentStage").map join = step_foreach_provider_runningStep_CurrentStage ∧
    (toksOf "step_foreach_provider_runningStep_Close").map join = step_foreach_provider_runningStep_Close ∧
    (toksOf "step_foreach_provider_runningStep_run").map join = step_foreach_provider_runningStep_run ∧
    (toksOf "step_foreach_provider_runningStep_processInput").map join = step_foreach_provider_runningStep_processInput ∧
    (toksOf "step_foreach_provider_runningStep_executeSubWorkflows").map join =
      step_foreach_provider_runningStep_executeSubWorkflows

/-- results of the checker for a body that violate balance (entry: free) -/
def unbalancedExits (m : String) (toks : List SplitTok) : Nat :=
  match parse m toks with
  | some b => ((postB b St.free).filter (fun p => !(match p.1 with
      | .fall | .ret => !p.2.bad && p.2.held == false
      | .panic => true
      | _ => false))).length
  | none => 0

abbrev Verdicts : Prop :=
    lockPairs.all (fun p => (balanced p.2.1 p.2.2 || knownUnbalanced.contains (p.1, p.2.1)) &&
      decide (1 ≤ lockCalls p.2.1 p.2.2)) = true ∧
    (balanced "e.inputLock" (toksOf "workflow_workflow_executableWorkflow_Execute") = true ∧
      lockCalls "e.inputLock" (toksOf "workflow_workflow_executableWorkflow_Execute") = 1) ∧
    (balanced "l.lock" (toksOf "workflow_workflow_executableWorkflow_Execute") = false ∧
      unbalancedExits "l.lock" (toksOf "workflow_workflow_executableWorkflow_Execute") = 1)

/-- ONE evaluation: a literal is read once per declaration (Proofs/SkelUtil.lean); the re-join reads every token to its
    end, and the checker then finds them evaluated -/
theorem tables_checked : SplitFormIsSkeleton ∧ Verdicts := by
  simp only [SplitFormIsSkeleton, Verdicts, toksOf_code]
  decide +kernel

theorem split_form_is_skeleton : SplitFormIsSkeleton := tables_checked.1

theorem verdicts_checked : Verdicts := tables_checked.2

theorem all_locks_released_on_every_path :
    lockPairs.all (fun p => balanced p.2.1 p.2.2 || knownUnbalanced.contains (p.1, p.2.1)) = true :=
  List.all_eq_true.mpr fun p hp => (Bool.and_eq_true_iff.mp (List.all_eq_true.mp verdicts_checked.1 p hp)).1

theorem every_pair_locks : lockPairs.all (fun p => decide (1 ≤ lockCalls p.2.1 p.2.2)) = true ∧ lockPairs ≠ [] :=
  ⟨List.all_eq_true.mpr fun p hp => (Bool.and_eq_true_iff.mp (List.all_eq_true.mp verdicts_checked.1 p hp)).2,
   by decide +kernel⟩

theorem execute_input_lock_balanced :
    balanced "e.inputLock" (toksOf "workflow_workflow_executableWorkflow_Execute") = true ∧
    lockCalls "e.inputLock" (toksOf "workflow_workflow_executableWorkflow_Execute") = 1 :=
  verdicts_checked.2.1

end Arca.Proofs.LockFacts
