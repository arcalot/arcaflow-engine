/-
Every function of `RunLoop.lean` on `R = LoopState × List Action` is a finite sequence of primitive steps, so an invariant
is checked against the constructors of a step relation and lifted by `Star.preserves`.  The steps do not carry the to-do
list of `processNodes`: the two proofs whose invariant speaks of it (`processNode_moves` in `LoopSafeLemmas.lean`,
`processNode_core` in `LoopComplete.lean`) follow `processNode` themselves.
-/
import Arca.Model.RunLoop

namespace Arca.Model

theorem sendErr_frame (cap : Nat) (r : R) (k : ErrKind) :
    (sendErr cap r k).1.dag = r.1.dag ∧ (sendErr cap r k).1.data = r.1.data ∧
    (sendErr cap r k).1.finished = r.1.finished ∧ (sendErr cap r k).1.dead = r.1.dead := by
  unfold sendErr
  repeat' split
  all_goals exact ⟨rfl, rfl, rfl, rfl⟩

theorem doCancel_frame (r : R) :
    (doCancel r).1.dag = r.1.dag ∧ (doCancel r).1.data = r.1.data ∧
    (doCancel r).1.finished = r.1.finished ∧ (doCancel r).1.dead = r.1.dead := by
  unfold doCancel
  split <;> exact ⟨rfl, rfl, rfl, rfl⟩

theorem checkDeadlock_frame {P : Prepared} (retries : Nat) (busy : Bool) (r : R) :
    (checkDeadlock P retries busy r).1.dag = r.1.dag ∧ (checkDeadlock P retries busy r).1.data = r.1.data ∧
    (checkDeadlock P retries busy r).1.finished = r.1.finished ∧
    (checkDeadlock P retries busy r).1.dead = r.1.dead := by
  unfold checkDeadlock
  repeat' split
  all_goals simp only [sendErr_frame, doCancel_frame, emit, and_self]

inductive Star (S : R → R → Prop) : R → R → Prop
  | refl (r : R) : Star S r r
  | tail {a b c : R} : Star S a b → S b c → Star S a c

namespace Star
variable {S : R → R → Prop}

theorem single {a b : R} (h : S a b) : Star S a b := .tail (.refl a) h

theorem trans {a b c : R} (h1 : Star S a b) (h2 : Star S b c) : Star S a c := by
  induction h2 with
  | refl => exact h1
  | tail _ s ih => exact .tail ih s

theorem head {a b c : R} (s : S a b) (h : Star S b c) : Star S a c := trans (single s) h

theorem preserves {Q : R → Prop} (hstep : ∀ a b, S a b → Q a → Q b) {a b : R}
    (h : Star S a b) (ha : Q a) : Q b := by
  induction h with
  | refl => exact ha
  | tail _ s ih => exact hstep _ _ s ih

end Star

/-- The primitive transformations of (state, accumulated actions) the loop is made of, without the graph operations and the
origin of the values: enough for the invariants of the action list (`LoopInv.lean`).  `sendErr` is not for
`noMoreOutputs`: `noMoreOut` is then the only step that reports it, so `NmoInv` can count the reports. -/
inductive Step (P : Prepared) : R → R → Prop
  | setDag (r : R) (g : Graph String) : Step P r ({ r.1 with dag := g }, r.2)
  | setData (r : R) (d : Val) : Step P r ({ r.1 with data := d }, r.2)
  | setFinished (r : R) (f : List (String × String)) : Step P r ({ r.1 with finished := f }, r.2)
  | drain (r : R) : Step P r ({ r.1 with errs := 0 }, r.2)
  | provide (r : R) (a b : String) (v : Val) : Step P r (emit r (.provide a b v))
  | skipped (r : R) (o : String) (v : Val) : r.1.outputDone = true → Step P r (emit r (.outputSkipped o v))
  | spawn (r : R) (n : Nat) : Step P r (emit r (.spawnDetector n))
  | die (r : R) (site : PanicSite) : Step P r (die r (.panic site))
  | sendErr (r : R) (k : ErrKind) : k ≠ .noMoreOutputs → Step P r (sendErr P.errCap r k)
  | cancel (r : R) : Step P r (doCancel r)
  | dropWaiting (r : R) (id : String) :
      Step P r ({ r.1 with waitingOutputs := r.1.waitingOutputs.filter (· ≠ id) }, r.2)
  | noMoreOut (r : R) (id : String) :
      r.1.waitingOutputs.contains id = true →
      (r.1.waitingOutputs.filter (· ≠ id)).isEmpty = true →
      Step P r (Arca.Model.sendErr P.errCap
        ({ r.1 with waitingOutputs := r.1.waitingOutputs.filter (· ≠ id) }, r.2) .noMoreOutputs)
  | output (r : R) (o : String) (v : Val) :
      r.1.outputDone = false →
      Step P r ({ r.1 with outputDone := true, result := some (o, v) }, r.2 ++ [.output o v])

/-- `Star (Step P)`, as an inductive of its own: the statements of `LoopInv.lean` that C01 cites are stated with it -/
inductive Reach (P : Prepared) : R → R → Prop
  | refl (r : R) : Reach P r r
  | tail {a b c : R} : Reach P a b → Step P b c → Reach P a c

namespace Reach

variable {P : Prepared}

theorem single {a b : R} (h : Step P a b) : Reach P a b := .tail (.refl a) h

theorem trans {a b c : R} (h1 : Reach P a b) (h2 : Reach P b c) : Reach P a c := by
  induction h2 with
  | refl => exact h1
  | tail _ s ih => exact .tail ih s

theorem preserves {Q : R → Prop} (hstep : ∀ a b, Step P a b → Q a → Q b) {a b : R}
    (h : Reach P a b) (ha : Q a) : Q b := by
  induction h with
  | refl => exact ha
  | tail _ s ih => exact hstep _ _ s ih

end Reach

inductive Later : Graph String → Graph String → Prop
  | refl (g : Graph String) : Later g g
  | resolve {g g1 g2 : Graph String} (id : String) (st : St) : Later g g1 → g1.resolve id st = .ok g2 → Later g g2
  | popReady {g g1 : Graph String} : Later g g1 → Later g g1.popReady.2
  | pushStarting {g g1 : Graph String} : Later g g1 → Later g g1.pushStarting

theorem Later.trans {a b c : Graph String} (h1 : Later a b) (h2 : Later b c) : Later a c := by
  induction h2 with
  | refl => exact h1
  | resolve id st _ hok ih => exact ih.resolve id st hok
  | popReady _ ih => exact ih.popReady
  | pushStarting _ ih => exact ih.pushStarting

/-- two graphs: `gb`, the start of the reaction, is where the invariant and the prepared edges are known; `cur` is the
graph at the emit, to which `ready_sound` at pop time (`g0`) is transported (`Popped.deps`) -/
def Popped (ord : Order) (gb cur : Graph String) (id : String) (st : St) : Prop :=
  ∃ g0, Later gb g0 ∧ Later g0 cur ∧ (id, st) ∈ ord g0.popReady.1

theorem Popped.mono {ord : Order} {gb cur cur' : Graph String} {id : String} {st : St}
    (h : Popped ord gb cur id st) (hle : Later cur cur') : Popped ord gb cur' id st := by
  obtain ⟨g0, h1, h2, h3⟩ := h
  exact ⟨g0, h1, h2.trans hle, h3⟩

/-- the steps of `notifySteps` and of the deadlock check, with the graph operation performed and what is known where it
is performed.  `gb` is the graph at the start of the reaction. -/
inductive StepN (P : Prepared) (fns : Fns) (ord : Order) (gb : Graph String) : R → R → Prop
  | popReady (r : R) : StepN P fns ord gb r ({ r.1 with dag := r.1.dag.popReady.2 }, r.2)
  | resolveItem (r : R) (id : String) (it : Item) (g' : Graph String) :
      lookup id P.items = some it → (it.kind = Kind.group ∨ it.kind = Kind.output) →
      r.1.dag.resolve id St.resolved = .ok g' → StepN P fns ord gb r ({ r.1 with dag := g' }, r.2)
  | provide (r : R) (id : String) (st : St) (it : Item) (d : InVal) (v : Val) :
      Popped ord gb r.1.dag id st → st ≠ St.unres → lookup id P.items = some it → it.kind = Kind.stage →
      it.data = some d → resolveIn fns r.1.dag r.1.data d = .ok v →
      StepN P fns ord gb r (emit r (.provide it.step it.stage v))
  | output (r : R) (id : String) (st : St) (it : Item) (d : InVal) (v : Val) :
      Popped ord gb r.1.dag id st → st ≠ St.unres → lookup id P.items = some it → it.kind = Kind.output →
      it.data = some d → resolveIn fns r.1.dag r.1.data d = .ok v → r.1.outputDone = false →
      StepN P fns ord gb r
        ({ r.1 with outputDone := true, result := some (it.output, v) }, r.2 ++ [.output it.output v])
  | skipped (r : R) (o : String) (v : Val) : r.1.outputDone = true →
      StepN P fns ord gb r (emit r (.outputSkipped o v))
  | spawn (r : R) (n : Nat) : StepN P fns ord gb r (emit r (.spawnDetector n))
  | die (r : R) (site : PanicSite) : StepN P fns ord gb r (die r (.panic site))
  | sendErr (r : R) (k : ErrKind) : k ≠ .noMoreOutputs → StepN P fns ord gb r (sendErr P.errCap r k)
  | cancel (r : R) : StepN P fns ord gb r (doCancel r)
  | dropWaiting (r : R) (id : String) :
      StepN P fns ord gb r ({ r.1 with waitingOutputs := r.1.waitingOutputs.filter (· ≠ id) }, r.2)
  | noMoreOut (r : R) (id : String) :
      r.1.waitingOutputs.contains id = true →
      (r.1.waitingOutputs.filter (· ≠ id)).isEmpty = true →
      StepN P fns ord gb r (Arca.Model.sendErr P.errCap
        ({ r.1 with waitingOutputs := r.1.waitingOutputs.filter (· ≠ id) }, r.2) .noMoreOutputs)

/-- the primitive steps that precede `notifySteps` in a reaction; none of them emits `provide` or `output` -/
inductive StepPre (P : Prepared) : R → R → Prop
  | resolveOk (r : R) (id : String) (st : St) (g' : Graph String) :
      r.1.dag.resolve id st = .ok g' → StepPre P r ({ r.1 with dag := g' }, r.2)
  | pushStarting (r : R) : StepPre P r ({ r.1 with dag := r.1.dag.pushStarting }, r.2)
  | initData (r : R) (input : Val) : StepPre P r ({ r.1 with data := initData P input }, r.2)
  | stageData (r : R) (step stage out : String) (v : Val) :
      StepPre P r ({ r.1 with data := setStageData r.1.data step stage out v }, r.2)
  | setFinished (r : R) (f : List (String × String)) : StepPre P r ({ r.1 with finished := f }, r.2)
  | drain (r : R) : StepPre P r ({ r.1 with errs := 0 }, r.2)
  | die (r : R) (site : PanicSite) : StepPre P r (die r (.panic site))
  | sendErr (r : R) (k : ErrKind) : k ≠ .noMoreOutputs → StepPre P r (sendErr P.errCap r k)
  | cancel (r : R) : StepPre P r (doCancel r)

section Steps
variable {P : Prepared} {fns : Fns} {ord : Order} {gb : Graph String}

theorem StepPre.step {a b : R} (h : StepPre P a b) : Step P a b := by
  cases h with
  | resolveOk _ _ g' _ => exact .setDag _ g'
  | pushStarting => exact .setDag _ _
  | initData => exact .setData _ _
  | stageData => exact .setData _ _
  | setFinished f => exact .setFinished _ f
  | drain => exact .drain _
  | die site => exact .die _ site
  | sendErr k hk => exact .sendErr _ k hk
  | cancel => exact .cancel _

theorem StepN.step {a b : R} (h : StepN P fns ord gb a b) : Step P a b := by
  cases h with
  | popReady => exact .setDag _ _
  | resolveItem _ _ g' => exact .setDag _ g'
  | provide _ _ it _ v => exact .provide _ it.step it.stage v
  | output _ _ it _ v _ _ _ _ _ _ hd => exact .output _ it.output v hd
  | skipped o v hd => exact .skipped _ o v hd
  | spawn n => exact .spawn _ n
  | die site => exact .die _ site
  | sendErr k hk => exact .sendErr _ k hk
  | cancel => exact .cancel _
  | dropWaiting id => exact .dropWaiting _ id
  | noMoreOut id hc he => exact .noMoreOut _ id hc he

theorem Star.reach {S : R → R → Prop} (f : ∀ a b, S a b → Step P a b) {a b : R} (h : Star S a b) : Reach P a b := by
  induction h with
  | refl => exact .refl _
  | tail _ s ih => exact .tail ih (f _ _ s)

theorem StepPre.later {a b : R} (h : StepPre P a b) : Later a.1.dag b.1.dag := by
  cases h
  case resolveOk id st g' hok => exact (Later.refl _).resolve id st hok
  case pushStarting => exact (Later.refl _).pushStarting
  all_goals try simp only [sendErr_frame, doCancel_frame]
  all_goals exact .refl _

theorem StepN.later {a b : R} (h : StepN P fns ord gb a b) : Later a.1.dag b.1.dag := by
  cases h
  case popReady => exact (Later.refl _).popReady
  case resolveItem id _ g' _ _ hok => exact (Later.refl _).resolve id _ hok
  all_goals try simp only [sendErr_frame, doCancel_frame]
  all_goals exact .refl _

theorem Star.later {S : R → R → Prop} (f : ∀ a b, S a b → Later a.1.dag b.1.dag) {a b : R} (h : Star S a b) :
    Later a.1.dag b.1.dag :=
  h.preserves (Q := fun r => Later a.1.dag r.1.dag) (fun _ _ s ih => ih.trans (f _ _ s)) (.refl _)

end Steps

section Walk
variable {P : Prepared} {fns : Fns} {ord : Order} {gb : Graph String}

theorem starN_sendErr_cancel {r : R} {k : ErrKind} (hk : k ≠ .noMoreOutputs) :
    Star (StepN P fns ord gb) r (doCancel (sendErr P.errCap r k)) :=
  (Star.single (.sendErr r k hk)).tail (.cancel _)

theorem processNode_reachN (notify : R → R)
    (hn : ∀ r : R, Later gb r.1.dag → Star (StepN P fns ord gb) r (notify r))
    (r : R) (id : String) (st : St) (hb : Later gb r.1.dag) (hp : Popped ord gb r.1.dag id st) :
    Star (StepN P fns ord gb) r (processNode P fns notify r id st).1 := by
  unfold processNode
  split
  · exact .refl _
  split
  · exact .single (.die _ _)
  rename_i item hitem
  split
  · -- unresolvable node: an output node leaves the waiting set
    split
    · split
      · exact .refl _
      · rename_i hc
        dsimp only
        split
        · rename_i he
          exact (Star.single (.noMoreOut r id (by simpa using hc) he.1)).tail (.cancel _)
        · exact .single (.dropWaiting r id)
    · exact .refl _
  rename_i hst
  split
  · -- no data: a dependency group is resolved, then `notify` looks again
    split
    · rename_i hk
      split
      · exact .single (.die _ _)
      · rename_i g hok
        exact .head (.resolveItem r id item g hitem (.inl hk) hok) (hn _ (hb.resolve id _ hok))
    · exact .refl _
  rename_i inData hdata
  split
  · exact starN_sendErr_cancel (by decide)
  rename_i v hv
  split
  · -- a stage node: its input is provided
    rename_i hk
    split
    · exact .refl _
    split
    · exact .single (.die _ _)
    split
    · exact .single (.provide r id st item inData _ hp hst hitem hk hdata hv)
    · exact .single (.die _ _)
  · -- output: the first one is the result, a later one is skipped; then the node is resolved
    rename_i hk
    dsimp only
    generalize hr1 : (if r.1.outputDone = true then _ else _ : R) = r1
    have h0 : Star (StepN P fns ord gb) r r1 := by
      subst hr1
      split
      · rename_i hd; exact .single (.skipped r _ _ hd)
      · rename_i hd; exact .single (.output r id st item inData v hp hst hitem hk hdata hv (by simpa using hd))
    split
    · rename_i g hok
      exact h0.tail (.resolveItem r1 id item g hitem (.inr hk) hok)
    · exact h0
  · exact .single (.die _ _)

theorem processNodes_reachN (notify : R → R)
    (hn : ∀ r : R, Later gb r.1.dag → Star (StepN P fns ord gb) r (notify r))
    (l : List (String × St)) : ∀ r : R, Later gb r.1.dag → (∀ x ∈ l, Popped ord gb r.1.dag x.1 x.2) →
      Star (StepN P fns ord gb) r (processNodes P fns notify r l) := by
  induction l with
  | nil => intro r _ _; exact .refl r
  | cons x rest ih =>
    intro r hb hp
    obtain ⟨id, st⟩ := x
    unfold processNodes
    have h1 := processNode_reachN notify hn r id st hb (hp _ List.mem_cons_self)
    have hle := h1.later fun _ _ => StepN.later
    dsimp only
    split
    · exact h1
    · exact h1.trans (ih _ (hb.trans hle) (fun x hx => (hp x (List.mem_cons_of_mem _ hx)).mono hle))

theorem notifySteps_reachN (f : Nat) :
    ∀ r : R, Later gb r.1.dag → Star (StepN P fns ord gb) r (notifySteps P fns ord f r) := by
  induction f with
  | zero => intro r _; exact .refl r
  | succ f ih =>
    intro r hb
    unfold notifySteps
    split
    · exact .refl r
    · exact .head (.popReady r)
        (processNodes_reachN _ ih _ _ hb.popReady (fun x hx => ⟨r.1.dag, hb, (Later.refl _).popReady, hx⟩))

theorem checkDeadlock_reachN {retries : Nat} {busy : Bool} {r : R} :
    Star (StepN P fns ord gb) r (checkDeadlock P retries busy r) := by
  unfold checkDeadlock
  repeat' split
  all_goals first
    | exact .refl _
    | exact .single (.spawn _ _)
    | exact starN_sendErr_cancel (by decide)

/-- `markStageNodeUnresolvable`, and one round of `markOutputsUnresolvable`, for the node `id`; `markStageUnres step stage` is
`markNode .markStageNodeUnresolvable (stageNodeId step stage)` by `rfl`, and the proofs use it so -/
def markNode (site : PanicSite) (id : String) (r : R) : R :=
  if r.1.dead then r
  else if !(r.1.dag.has id) then r
  else match r.1.dag.resolve id .unres with
    | .ok g => ({ r.1 with dag := g }, r.2)
    | .error _ => die r (.panic site)

def markAll (l : List (PanicSite × String)) (r : R) : R := l.foldl (fun r p => markNode p.1 p.2 r) r

theorem markAll_append (l l' : List (PanicSite × String)) (r : R) : markAll (l ++ l') r = markAll l' (markAll l r) :=
  List.foldl_append

def outputMarks (P : Prepared) (step stage : String) (skip : Option String) : List (PanicSite × String) :=
  ((P.outputsOf step stage).filter (fun o => skip ≠ some o)).map
    (fun o => (.markOutputsUnresolvable, outputNodeId step stage o))

theorem markOutputsUnres_all (step stage : String) (skip : Option String) (r : R) :
    markOutputsUnres P step stage skip r = markAll (outputMarks P step stage skip) r := by
  unfold markOutputsUnres markAll outputMarks
  rw [List.foldl_map, List.foldl_filter]
  congr
  funext r o
  unfold markNode
  by_cases hs : skip = some o
  · simp [hs]
  · simp only [hs, if_false, ne_eq, not_false_eq_true, decide_true, if_true]
    rfl

theorem markNode_finished (site : PanicSite) (id : String) (r : R) : (markNode site id r).1.finished = r.1.finished := by
  unfold markNode
  repeat' split
  all_goals rfl

def remainingMarks (P : Prepared) (step : String) (f : List (String × String)) : List (PanicSite × String) :=
  ((P.stagesOf step).filter (fun stage => !f.contains (step, stage))).flatMap
    (fun stage => outputMarks P step stage none ++ [(.markStageNodeUnresolvable, stageNodeId step stage)])

theorem markAll_finished (l : List (PanicSite × String)) (r : R) : (markAll l r).1.finished = r.1.finished :=
  List.foldlRecOn (motive := fun b => b.1.finished = r.1.finished) l _ rfl
    fun b hb p _ => (markNode_finished p.1 p.2 b).trans hb

theorem markRemaining_all (step : String) (r : R) :
    markRemaining P step r = markAll (remainingMarks P step r.1.finished) r := by
  unfold markRemaining remainingMarks
  -- the test of the loop gives the same answer in every round: marking does not touch the finished stages
  suffices ∀ (l : List String) (a : R), a.1.finished = r.1.finished → l.foldl (markRemainingOne P step) a =
      markAll ((l.filter (fun stage => !r.1.finished.contains (step, stage))).flatMap (fun stage =>
        outputMarks P step stage none ++ [(PanicSite.markStageNodeUnresolvable, stageNodeId step stage)])) a from
    this _ r rfl
  intro l
  induction l with
  | nil => exact fun _ _ => rfl
  | cons stage rest ih =>
    intro a ha
    rw [List.foldl_cons, List.filter_cons]
    unfold markRemainingOne
    rw [ha]
    cases r.1.finished.contains (step, stage) with
    | true => exact ih a ha
    | false =>
      simp only [Bool.false_eq_true, ↓reduceIte, Bool.not_false, List.flatMap_cons, markAll_append]
      rw [← markOutputsUnres_all]
      refine ih _ ((markNode_finished .markStageNodeUnresolvable (stageNodeId step stage) _).trans ?_)
      rw [markOutputsUnres_all, markAll_finished]
      exact ha

theorem markNode_pre (site : PanicSite) (id : String) (r : R) : Star (StepPre P) r (markNode site id r) := by
  unfold markNode
  repeat' split
  all_goals first | exact .refl _ | exact .single (.die _ _) | exact .single (.resolveOk _ _ _ _ ‹_›)

theorem markAll_pre (l : List (PanicSite × String)) (r : R) : Star (StepPre P) r (markAll l r) := by
  induction l generalizing r with
  | nil => exact .refl r
  | cons p rest ih => exact (markNode_pre p.1 p.2 r).trans (ih _)

theorem markOutputsUnres_pre (step stage : String) (skip : Option String) (r : R) :
    Star (StepPre P) r (markOutputsUnres P step stage skip r) :=
  markOutputsUnres_all step stage skip r ▸ markAll_pre _ r

def Decomp (P : Prepared) (fns : Fns) (ord : Order) (gb : Graph String) (a c : R) : Prop :=
  ∃ b, Star (StepPre P) a b ∧ Star (StepN P fns ord gb) b c

theorem Decomp.pre {a c : R} (h : Star (StepPre P) a c) : Decomp P fns ord gb a c := ⟨c, h, .refl c⟩

theorem Decomp.tailN {a b c : R} (h : Decomp P fns ord gb a b) (h2 : Star (StepN P fns ord gb) b c) :
    Decomp P fns ord gb a c := by
  obtain ⟨m, h1, h3⟩ := h
  exact ⟨m, h1, h3.trans h2⟩

theorem Decomp.notify {a r : R} {f : Nat} (h : Star (StepPre P) a r) (hb : Later gb a.1.dag) :
    Decomp P fns ord gb a (notifySteps P fns ord f r) :=
  ⟨r, h, notifySteps_reachN f r (hb.trans (h.later fun _ _ => StepPre.later))⟩

theorem Decomp.reach {a c : R} (h : Decomp P fns ord gb a c) : Reach P a c := by
  obtain ⟨b, h1, h2⟩ := h
  exact (h1.reach fun _ _ => StepPre.step).trans (h2.reach fun _ _ => StepN.step)

theorem Decomp.later {a c : R} (h : Decomp P fns ord gb a c) : Later a.1.dag c.1.dag := by
  obtain ⟨b, h1, h2⟩ := h
  exact (h1.later fun _ _ => StepPre.later).trans (h2.later fun _ _ => StepN.later)

theorem finishStage_decomp (step : String) (complete : Bool) {a r : R}
    (h0 : Star (StepPre P) a r) (hb : Later gb a.1.dag) :
    Decomp P fns ord gb a (finishStage P fns ord step complete r) := by
  unfold finishStage
  split
  · exact .notify (h0.trans (markRemaining_all step r ▸ markAll_pre _ r)) hb
  · exact .notify h0 hb

/-- how `onStageComplete` leaves before its end: it reports an error and cancels the run, or panics -/
inductive Abort (P : Prepared) (r : R) : R → Prop
  | err (k : ErrKind) : k ≠ .noMoreOutputs → Abort P r (doCancel (sendErr P.errCap r k))
  | panic (site : PanicSite) : Abort P r (die r (.panic site))

theorem Abort.pre {r r' : R} (h : Abort P r r') : Star (StepPre P) r r' := by
  cases h with
  | err k hk => exact (Star.single (.sendErr r k hk)).tail (.cancel _)
  | panic site => exact .single (.die r site)

theorem Abort.frame {r r' : R} (h : Abort P r r') :
    r'.1.dag = r.1.dag ∧ r'.1.data = r.1.data ∧ r'.1.finished = r.1.finished ∧
      (r'.1.dead = false → r.1.dead = false) := by
  cases h with
  | err k hk => simp only [sendErr_frame, doCancel_frame, imp_self, and_self]
  | panic site => exact ⟨rfl, rfl, rfl, fun h => nomatch h⟩

/-- the state in which `onStageComplete` goes on once the stage node is resolved (graph `g`) and recorded as finished -/
abbrev stageDone (step prev : String) (g : Graph String) (r : R) : R :=
  ({ r.1 with dag := g, finished := (step, prev) :: r.1.finished }, r.2)

abbrev withStageData (step prev oid : String) (v : Val) (r : R) : R :=
  ({ r.1 with data := setStageData r.1.data step prev oid v }, r.2)

/-- The ways through `onStageComplete(step, prev, out)` from `r`: `onStageCompleteBody` is walked once (`stageEnd_of_eq`),
its clients do `cases` on this.  (`markDied`: marking the alternative outputs panicked.) -/
inductive StageEnd (P : Prepared) (fns : Fns) (ord : Order) (step prev : String) (complete : Bool) (r : R) :
    Option (String × Val) → R → Prop
  | abort {out : Option (String × Val)} {r' : R} :
      (r.1.dag.has (stageNodeId step prev) = false ∨
        ∃ e, r.1.dag.resolve (stageNodeId step prev) .resolved = .error e) →
      Abort P r r' → StageEnd P fns ord step prev complete r out r'
  | noOutput {g : Graph String} : r.1.dag.resolve (stageNodeId step prev) .resolved = .ok g →
      StageEnd P fns ord step prev complete r none (finishStage P fns ord step complete (stageDone step prev g r))
  | abortOutput {g : Graph String} {oid : String} {v : Val} {r' : R} :
      r.1.dag.resolve (stageNodeId step prev) .resolved = .ok g →
      (g.has (outputNodeId step prev oid) = false ∨
        ∃ e, g.resolve (outputNodeId step prev oid) .resolved = .error e) →
      Abort P (stageDone step prev g r) r' → StageEnd P fns ord step prev complete r (some (oid, v)) r'
  | markDied {g g2 : Graph String} {oid : String} {v : Val} :
      r.1.dag.resolve (stageNodeId step prev) .resolved = .ok g →
      g.resolve (outputNodeId step prev oid) .resolved = .ok g2 →
      (markOutputsUnres P step prev (some oid) (stageDone step prev g2 r)).1.dead = true →
      StageEnd P fns ord step prev complete r (some (oid, v))
        (markOutputsUnres P step prev (some oid) (stageDone step prev g2 r))
  | output {g g2 : Graph String} {oid : String} {v : Val} :
      r.1.dag.resolve (stageNodeId step prev) .resolved = .ok g →
      g.resolve (outputNodeId step prev oid) .resolved = .ok g2 →
      (markOutputsUnres P step prev (some oid) (stageDone step prev g2 r)).1.dead = false →
      StageEnd P fns ord step prev complete r (some (oid, v))
        (finishStage P fns ord step complete
          (withStageData step prev oid v (markOutputsUnres P step prev (some oid) (stageDone step prev g2 r))))

theorem stageEnd_of_eq {step prev : String} {out : Option (String × Val)} {complete : Bool} {r r' : R}
    (h : onStageCompleteBody P fns ord step prev out complete r = r') :
    StageEnd P fns ord step prev complete r out r' := by
  subst h
  unfold onStageCompleteBody
  dsimp only
  split
  · rename_i hh
    exact .abort (.inl (by simpa using hh)) (.err _ (by decide))
  split
  · rename_i he; exact .abort (.inr ⟨_, he⟩) (.panic _)
  · rename_i he; exact .abort (.inr ⟨_, he⟩) (.panic _)
  · rename_i he; exact .abort (.inr ⟨_, he⟩) (.err _ (by decide))
  rename_i g hok
  split
  · exact .noOutput hok
  rename_i oid v
  split
  · rename_i hh
    exact .abortOutput hok (.inl (by simpa using hh)) (.err _ (by decide))
  split
  · rename_i he; exact .abortOutput hok (.inr ⟨_, he⟩) (.panic _)
  · rename_i he; exact .abortOutput hok (.inr ⟨_, he⟩) (.panic _)
  · rename_i he; exact .abortOutput hok (.inr ⟨_, he⟩) (.err _ (by decide))
  rename_i g2 hok2
  split
  · rename_i hd; exact .markDied hok hok2 hd
  · rename_i hd; exact .output hok hok2 (by simpa using hd)

theorem StageEnd.decomp {step prev : String} {out : Option (String × Val)} {complete : Bool} {r r' : R}
    (h : StageEnd P fns ord step prev complete r out r') (hb : Later gb r.1.dag) : Decomp P fns ord gb r r' := by
  have h1 : ∀ {g}, r.1.dag.resolve (stageNodeId step prev) .resolved = .ok g →
      Star (StepPre P) r (stageDone step prev g r) := fun {g} hok =>
    (Star.single (.resolveOk r _ _ g hok)).tail (.setFinished ({ r.1 with dag := g }, r.2) _)
  have h3 : ∀ {g g2 oid}, r.1.dag.resolve (stageNodeId step prev) .resolved = .ok g →
      g.resolve (outputNodeId step prev oid) .resolved = .ok g2 →
      Star (StepPre P) r (markOutputsUnres P step prev (some oid) (stageDone step prev g2 r)) :=
    fun {g g2 oid} hok hok2 => ((h1 hok).tail (.resolveOk (stageDone step prev g r) _ _ g2 hok2)).trans
      (markOutputsUnres_pre step prev (some oid) _)
  cases h with
  | abort _ ha => exact .pre ha.pre
  | noOutput hok => exact finishStage_decomp step complete (h1 hok) hb
  | abortOutput hok _ ha => exact .pre ((h1 hok).trans ha.pre)
  | markDied hok hok2 _ => exact .pre (h3 hok hok2)
  | output hok hok2 _ => exact finishStage_decomp step complete ((h3 hok hok2).tail (.stageData _ step prev _ _)) hb

theorem onStageCompleteBody_decomp {step prev : String} {out : Option (String × Val)} {complete : Bool} {r : R}
    (hb : Later gb r.1.dag) :
    Decomp P fns ord gb r (onStageCompleteBody P fns ord step prev out complete r) :=
  (stageEnd_of_eq rfl).decomp hb

/-- the callbacks that report the end of stage `prev` of `step`: OnStageChange, and OnStepComplete (`complete`) -/
def Event.stageEnd (step prev : String) (out : Option (String × Val)) (busy : Bool) : Bool → Event
  | false => .stageChange step (some prev) out busy
  | true => .stepComplete step prev out busy

theorem react_dead (P : Prepared) (fns : Fns) (ord : Order) (s : LoopState) (e : Event) (hs : s.dead = true) :
    react P fns ord s e = (s, []) := by
  unfold react
  rw [if_pos hs]

section Events
variable {s : LoopState} (hd : s.dead = false)
include hd

theorem react_start (input : Val) :
    react P fns ord s (.start input) = ({ s with data := initData P input, dag := s.dag.pushStarting }, []) ∨
    ∃ g, s.dag.pushStarting.resolve "input" .resolved = .ok g ∧
      react P fns ord s (.start input) =
        notifySteps P fns ord (notifyFuel P) ({ s with data := initData P input, dag := g }, []) := by
  unfold react
  rw [if_neg (by simp [hd])]
  dsimp only
  split
  · exact .inl rfl
  split
  · exact .inl rfl
  · rename_i g hok
    exact .inr ⟨g, hok, rfl⟩

/-- `3`: `l.checkForDeadlocks(3, wg)` at the end of `onStageComplete` (workflow.go); the same number is
`Arca.Gen.detectorRetries`, regenerated from the source, but nothing ties the literal of `react` to it -/
theorem react_stageChange (step prev : String) (out : Option (String × Val)) (busy : Bool) :
    react P fns ord s (.stageChange step (some prev) out busy) =
      checkDeadlock P 3 busy (onStageCompleteBody P fns ord step prev out false (s, [])) := by
  simp [react, hd]

theorem react_stepComplete (step prev : String) (out : Option (String × Val)) (busy : Bool) :
    react P fns ord s (.stepComplete step prev out busy) =
      checkDeadlock P 3 busy (onStageCompleteBody P fns ord step prev out true (s, [])) := by
  simp [react, hd]

theorem react_stageFail (step stage : String) :
    react P fns ord s (.stageFail step stage) =
      if (markStageUnres step stage (markOutputsUnres P step stage none (s, []))).1.dead then
        markStageUnres step stage (markOutputsUnres P step stage none (s, []))
      else notifySteps P fns ord (notifyFuel P) (markStageUnres step stage (markOutputsUnres P step stage none (s, []))) := by
  simp [react, hd]

theorem react_tick (retries : Nat) (busy : Bool) :
    react P fns ord s (.tick retries busy) = if s.cancelled then (s, []) else checkDeadlock P retries busy (s, []) := by
  simp [react, hd]

theorem react_drain : react P fns ord s .drain = ({ s with errs := 0 }, []) := by
  simp [react, hd]

end Events

theorem react_stageChange_none (s : LoopState) (step : String) (out : Option (String × Val)) (busy : Bool) :
    react P fns ord s (.stageChange step none out busy) = (s, []) := by
  unfold react
  split <;> rfl

theorem react_decomp (fns : Fns) (ord : Order) (s : LoopState) (e : Event) :
    Decomp P fns ord s.dag (s, []) (react P fns ord s e) := by
  have hb : Later s.dag s.dag := .refl _
  unfold react
  split
  · exact .pre (.refl _)
  split
  · rename_i input
    dsimp only
    have h1 : Star (StepPre P) (s, []) ({ s with data := initData P input, dag := s.dag.pushStarting }, []) :=
      (Star.single (.initData (s, []) input)).tail (.pushStarting _)
    split
    · exact .pre h1
    split
    · exact .pre h1
    · rename_i g hok
      exact .notify (h1.tail (.resolveOk _ _ _ g hok)) hb
  · split
    · exact .pre (.refl _)
    · exact (onStageCompleteBody_decomp hb).tailN checkDeadlock_reachN
  · exact (onStageCompleteBody_decomp hb).tailN checkDeadlock_reachN
  · rename_i step stage
    dsimp only
    have h1 : Star (StepPre P) (s, []) (markStageUnres step stage (markOutputsUnres P step stage none (s, []))) :=
      (markOutputsUnres_pre step stage none (s, [])).trans (markNode_pre _ _ _)
    split
    · exact .pre h1
    · exact .notify h1 hb
  · split
    · exact .pre (.refl _)
    · exact ⟨_, .refl _, checkDeadlock_reachN⟩
  · exact .pre (.single (.drain (s, [])))

end Walk

section Reach
variable {P : Prepared}

theorem react_reach (fns : Fns) (ord : Order) (s : LoopState) (e : Event) :
    Reach P (s, []) (react P fns ord s e) :=
  (react_decomp fns ord s e).reach

theorem notifySteps_reach (fns : Fns) (ord : Order) (f : Nat) (r : R) : Reach P r (notifySteps P fns ord f r) :=
  (notifySteps_reachN (gb := r.1.dag) f r (.refl _)).reach fun _ _ => StepN.step

theorem onStageCompleteBody_reach (fns : Fns) (ord : Order) (step prev : String)
    (out : Option (String × Val)) (complete : Bool) (r : R) :
    Reach P r (onStageCompleteBody P fns ord step prev out complete r) :=
  (onStageCompleteBody_decomp (gb := r.1.dag) (.refl _)).reach

end Reach

theorem runFrom_cons (P : Prepared) (fns : Fns) (ord : Order) (s : LoopState) (e : Event) (es : List Event) :
    runFrom P fns ord s (e :: es) =
      ((runFrom P fns ord (react P fns ord s e).1 es).1,
       (react P fns ord s e).2 ++ (runFrom P fns ord (react P fns ord s e).1 es).2) := rfl

section Prefix
variable {P : Prepared}

/-- the actions `acc` put in front of those of `r`.  A `Step` stays a `Step` under it (`Step.after`): so `runFrom_reach`
re-bases the run from the second event on upon the actions of the first reaction. -/
def after (acc : List Action) (r : R) : R := (r.1, acc ++ r.2)

theorem after_emit (acc : List Action) (r : R) (x : Action) : after acc (emit r x) = emit (after acc r) x := by
  simp [after, emit]

theorem after_die (acc : List Action) (r : R) (x : Action) : after acc (die r x) = die (after acc r) x := by
  simp [after, die]

theorem after_sendErr (acc : List Action) (cap : Nat) (r : R) (k : ErrKind) :
    after acc (sendErr cap r k) = sendErr cap (after acc r) k := by
  by_cases hd : r.1.dead <;> by_cases he : r.1.errs < cap <;> simp [after, sendErr, hd, he]

theorem after_doCancel (acc : List Action) (r : R) : after acc (doCancel r) = doCancel (after acc r) := by
  by_cases hd : r.1.dead <;> simp [after, doCancel, hd]

theorem Step.after (acc : List Action) {a b : R} (h : Step P a b) : Step P (after acc a) (after acc b) := by
  cases h with
  | setDag g => exact .setDag (Model.after acc a) g
  | setData d => exact .setData (Model.after acc a) d
  | setFinished f => exact .setFinished (Model.after acc a) f
  | drain => exact .drain (Model.after acc a)
  | provide x y v => rw [after_emit]; exact .provide _ x y v
  | skipped o v hd => rw [after_emit]; exact .skipped _ o v hd
  | spawn n => rw [after_emit]; exact .spawn _ n
  | die site => rw [after_die]; exact .die _ site
  | sendErr k hk => rw [after_sendErr]; exact .sendErr _ k hk
  | cancel => rw [after_doCancel]; exact .cancel _
  | dropWaiting id => exact .dropWaiting (Model.after acc a) id
  | noMoreOut id hc he => rw [after_sendErr]; exact .noMoreOut (Model.after acc a) id hc he
  | output o v hd =>
    have := Step.output (P := P) (Model.after acc a) o v hd
    simpa [Model.after] using this

theorem runFrom_reach (fns : Fns) (ord : Order) (hist : List Event) :
    ∀ s, Reach P (s, []) (runFrom P fns ord s hist) := by
  induction hist with
  | nil => intro s; exact .refl _
  | cons e es ih =>
    intro s
    have h := Reach.preserves (Q := fun r => Reach P (after (react P fns ord s e).2 ((react P fns ord s e).1, []))
        (after (react P fns ord s e).2 r)) (fun _ _ st ih => ih.tail (st.after _)) (ih (react P fns ord s e).1)
      (.refl _)
    rw [runFrom_cons]
    simp only [after, List.append_nil] at h
    exact (react_reach fns ord s e).trans h

end Prefix

/-- `H s hist`: the history is admissible from `s`; `E s e`: the event is admissible in `s` -/
theorem runFrom_acc {P : Prepared} {fns : Fns} {ord : Order} {Q : LoopState → List Action → Prop}
    {E : LoopState → Event → Prop} {H : LoopState → List Event → Prop}
    (hH : ∀ s e es, H s (e :: es) → E s e ∧ H (react P fns ord s e).1 es)
    (hreact : ∀ s acc e, Q s acc → E s e → Q (react P fns ord s e).1 (acc ++ (react P fns ord s e).2))
    (hist : List Event) : ∀ s acc, Q s acc → H s hist →
      Q (runFrom P fns ord s hist).1 (acc ++ (runFrom P fns ord s hist).2) := by
  induction hist with
  | nil => intro s _ hs _; simpa [runFrom] using hs
  | cons e es ih =>
    intro s acc hs hh
    obtain ⟨he, hes⟩ := hH s e es hh
    rw [runFrom_cons, ← List.append_assoc]
    exact ih _ _ (hreact s acc e hs he) hes

theorem runFrom_preserves {P : Prepared} {fns : Fns} {ord : Order} {I : LoopState → Prop}
    {E : LoopState → Event → Prop} {H : LoopState → List Event → Prop} {A : Action → Prop}
    (hH : ∀ s e es, H s (e :: es) → E s e ∧ H (react P fns ord s e).1 es)
    (hreact : ∀ s e, I s → E s e → I (react P fns ord s e).1 ∧ ∀ a ∈ (react P fns ord s e).2, A a)
    (hist : List Event) (s : LoopState) (hs : I s) (hh : H s hist) :
    I (runFrom P fns ord s hist).1 ∧ ∀ a ∈ (runFrom P fns ord s hist).2, A a :=
  runFrom_acc (Q := fun s acc => I s ∧ ∀ a ∈ acc, A a) hH
    (fun s _ e hq he => ⟨(hreact s e hq.1 he).1, fun a ha =>
      (List.mem_append.1 ha).elim (hq.2 a) ((hreact s e hq.1 he).2 a)⟩)
    hist s [] ⟨hs, fun _ h => nomatch h⟩ hh

theorem runFrom_inv {P : Prepared} {fns : Fns} {ord : Order} {I : LoopState → Prop}
    (hreact : ∀ s e, I s → I (react P fns ord s e).1) (hist : List Event) (s : LoopState) (hs : I s) :
    I (runFrom P fns ord s hist).1 :=
  (runFrom_preserves (E := fun _ _ => True) (H := fun _ _ => True) (A := fun _ => True)
    (fun _ _ _ _ => ⟨trivial, trivial⟩) (fun s e hs _ => ⟨hreact s e hs, fun _ _ => trivial⟩) hist s hs trivial).1

end Arca.Model
