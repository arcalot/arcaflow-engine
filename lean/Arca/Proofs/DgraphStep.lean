/-
What `dependencyResolved`, the work-list propagation and `ResolveNode` do, without any invariant.
`Graph.depResolved_cases` is the one case analysis of `depResolved` that everything else rests on;
`Graph.propagate_induction` / `Graph.resolve_induction`: whatever the status change that starts a successful
propagation establishes and every `depResolved` step preserves holds at the end.
-/
import Arca.Proofs.DgraphLemmas

set_option linter.unusedSectionVars false

namespace Arca.Model

variable {ι : Type} [DecidableEq ι]

/-- the possible effects of a successful `depResolved` on the target node `n` (outstanding entry `(s, dt)`),
the ready set and the `turned` flag -/
inductive DepStep (g : Graph ι) (n : Node ι) (s : ι) (st : St) (dt : Dep) : Node ι → List ι → Bool → Prop
  | soft : dt.hard = false →
      DepStep g n s st dt
        { n with res := if st = .resolved then n.res ++ [(s, dt)] else n.res, out := aerase s n.out } g.ready false
  | failW : st = .unres → (dt = .and ∨ (dt = .or ∧ hasDep .or (aerase s n.out) = false)) → n.status = .waiting →
      DepStep g n s st dt
        { n with out := obviate .opt (aerase s n.out), status := .unres } (insertSet n.id g.ready) true
  | failU : st = .unres → (dt = .and ∨ (dt = .or ∧ hasDep .or (aerase s n.out) = false)) → n.status = .unres →
      DepStep g n s st dt
        { n with out := obviate .opt (aerase s n.out) } (insertSet n.id g.ready) false
  | orWait : st = .unres → dt = .or → hasDep .or (aerase s n.out) = true →
      DepStep g n s st dt { n with out := aerase s n.out } g.ready false
  /-- `o2` is a parameter fixed by an equation, not the `if` inline (here and in `okWait`): in every branch of
  `Graph.depResolved_of` `simp` has decided the `if` already, and the step unifies only because `o2` is free -/
  | okReady (o2 : List (ι × Dep)) : dt.hard = true → (st = .resolved ∨ (st = .unres ∧ dt = .cand)) →
      o2 = (if dt = .or then obviate .or (aerase s n.out) else aerase s n.out) → allSoft o2 →
      DepStep g n s st dt
        { n with res := if st = .resolved then n.res ++ [(s, dt)] else n.res, out := obviate .opt o2 }
        (insertSet n.id g.ready) false
  | okWait (o2 : List (ι × Dep)) : dt.hard = true → (st = .resolved ∨ (st = .unres ∧ dt = .cand)) →
      o2 = (if dt = .or then obviate .or (aerase s n.out) else aerase s n.out) → ¬ allSoft o2 →
      DepStep g n s st dt
        { n with res := if st = .resolved then n.res ++ [(s, dt)] else n.res, out := o2 } g.ready false

section
variable {g : Graph ι} {t s : ι} {st : St} {n : Node ι} {dt : Dep}

theorem Graph.depResolved_notFound (h : g.find? t = none) (s : ι) (st : St) :
    g.depResolved t s st = .error (.notFound t) := by
  simp only [Graph.depResolved, h]

theorem Graph.depResolved_waiting (hn : g.find? t = some n) (s : ι) :
    g.depResolved t s .waiting = .error (.notifiedOfWaiting t s) := by
  simp only [Graph.depResolved, hn, if_true]

theorem Graph.depResolved_noEntry (hn : g.find? t = some n) (hst : st ≠ .waiting) (hdt : alookup s n.out = none) :
    g.depResolved t s st =
      .error (if g.hasEdge s t then .panicDupResolution t s else .panicNoConnection s t) := by
  simp only [Graph.depResolved, hn, hst, hdt, if_false]
  split <;> rfl

theorem Graph.markReady_eq (g : Graph ι) (n : Node ι) :
    g.markReady n = ({ g.setNode { n with out := obviate .opt n.out } with ready := insertSet n.id g.ready },
      { n with out := obviate .opt n.out }) := rfl

/-- `depResolved` once its three look-ups have succeeded: one of the six steps, or the refusal to fail a resolved
node.  Every branch unfolds the definition with its conditions decided, so that only the branch taken is visited;
`Graph.setNode_setNode` collapses the successive node updates of the Go code into one. -/
theorem Graph.depResolved_of (hn : g.find? t = some n) (hst : st ≠ .waiting) (hdt : alookup s n.out = some dt) :
    (∃ n' r' turned, DepStep g n s st dt n' r' turned ∧
      g.depResolved t s st = .ok ({ g.setNode n' with ready := r' }, turned)) ∨
    (st = .unres ∧ n.status = .resolved ∧ (dt = .and ∨ (dt = .or ∧ hasDep .or (aerase s n.out) = false)) ∧
      g.depResolved t s st = .error (.alreadySet t .resolved .unres)) := by
  generalize hr : g.depResolved t s st = r
  cases hh : dt.hard
  · simp only [Graph.depResolved, hn, hst, hdt, hh, if_false, Bool.not_false, if_true] at hr
    exact .inl ⟨_, _, _, .soft hh, hr.symm⟩
  by_cases hu : st = .unres ∧ dt ≠ .cand
  · obtain ⟨rfl, hcand⟩ := hu
    have hdor : dt ≠ .and → dt = .or := fun h => ((Dep.hard_cases hh).resolve_left h).resolve_right hcand
    by_cases hf : dt = .and ∨ (!hasDep .or (aerase s n.out)) = true
    · have hc : dt = .and ∨ (dt = .or ∧ hasDep .or (aerase s n.out) = false) := by
        by_cases ha : dt = .and
        · exact .inl ha
        · exact .inr ⟨hdor ha, by simpa using hf.resolve_left ha⟩
      simp only [Graph.depResolved, hn, hdt, hh, hcand, hf, Graph.markReady_eq, Graph.setNode_ready, reduceCtorEq,
        if_false, Bool.not_true, Bool.false_eq_true, ne_eq, not_false_eq_true, and_self, if_true,
        Graph.setNode_ready_comm, Graph.setNode_setNode] at hr
      cases hs : n.status <;> simp only [hs] at hr
      · exact .inl ⟨_, _, _, .failW rfl hc hs, hr.symm⟩
      · exact .inr ⟨rfl, rfl, hc, hr.symm⟩
      · exact .inl ⟨_, _, _, .failU rfl hc hs, hs ▸ hr.symm⟩
    · simp only [Graph.depResolved, hn, hdt, hh, hcand, hf, reduceCtorEq, if_false,
        Bool.not_true, Bool.false_eq_true, ne_eq, not_false_eq_true, and_self, if_true] at hr
      exact .inl ⟨_, _, _, .orWait rfl (hdor fun h => hf (.inl h)) (by simpa using fun h => hf (.inr h)), hr.symm⟩
  · have hc : st = .resolved ∨ (st = .unres ∧ dt = .cand) := by
      cases st
      · exact absurd rfl hst
      · exact .inl rfl
      · exact .inr ⟨rfl, Classical.not_not.1 fun h => hu ⟨rfl, h⟩⟩
    by_cases hor : dt = .or
    · subst hor
      have hiff : allSoft (obviate .or (aerase s n.out)) ↔
          (hasDep .and (obviate .or (aerase s n.out)) || hasDep .cand (obviate .or (aerase s n.out))) = false := by
        rw [allSoft_iff, hasDep_false_iff.2 fun p hp => obviate_ne (by decide) hp, Bool.or_false]
      simp only [Graph.depResolved, hn, hst, hdt, hh, hu, Graph.markReady_eq, Graph.setNode_ready, reduceCtorEq,
        if_false, Bool.not_true, Bool.false_eq_true, if_true, Bool.or_false, Graph.setNode_ready_comm,
        Graph.setNode_setNode] at hr
      by_cases hs : allSoft (obviate .or (aerase s n.out))
      · rw [hiff.1 hs] at hr
        exact .inl ⟨_, _, _, .okReady _ hh hc (if_pos rfl).symm hs, hr.symm⟩
      · rw [eq_true_of_ne_false (mt hiff.2 hs)] at hr
        exact .inl ⟨_, _, _, .okWait _ hh hc (if_pos rfl).symm hs, hr.symm⟩
    · simp only [Graph.depResolved, hn, hst, hdt, hh, hu, hor, Graph.markReady_eq, Graph.setNode_ready, if_false,
        Bool.not_true, Bool.false_eq_true, Graph.setNode_ready_comm, Graph.setNode_setNode] at hr
      by_cases hs : allSoft (aerase s n.out)
      · rw [allSoft_iff.1 hs] at hr
        exact .inl ⟨_, _, _, .okReady _ hh hc (if_neg hor).symm hs, hr.symm⟩
      · rw [eq_true_of_ne_false (mt allSoft_iff.2 hs)] at hr
        exact .inl ⟨_, _, _, .okWait _ hh hc (if_neg hor).symm hs, hr.symm⟩

end

theorem Graph.depResolved_cases (g : Graph ι) (t s : ι) (st : St) :
    (∃ n dt n' r' turned, g.find? t = some n ∧ st ≠ .waiting ∧ alookup s n.out = some dt ∧
      DepStep g n s st dt n' r' turned ∧ g.depResolved t s st = .ok ({ g.setNode n' with ready := r' }, turned)) ∨
    (∃ e, g.depResolved t s st = .error e ∧ e ≠ .fuel) := by
  cases hn : g.find? t with
  | none => exact .inr ⟨_, Graph.depResolved_notFound hn s st, nofun⟩
  | some n =>
    by_cases hst : st = .waiting
    · subst hst
      exact .inr ⟨_, Graph.depResolved_waiting hn s, nofun⟩
    cases hdt : alookup s n.out with
    | none => exact .inr ⟨_, Graph.depResolved_noEntry hn hst hdt, by split <;> nofun⟩
    | some dt =>
      rcases Graph.depResolved_of hn hst hdt with ⟨n', r', b, hstep, heq⟩ | ⟨_, _, _, heq⟩
      · exact .inl ⟨n, dt, n', r', b, rfl, hst, hdt, hstep, heq⟩
      · exact .inr ⟨_, heq, nofun⟩

theorem Graph.depResolved_ok {g g' : Graph ι} {t s : ι} {st : St} {turned : Bool}
    (h : g.depResolved t s st = .ok (g', turned)) :
    ∃ n dt n' r', g.find? t = some n ∧ st ≠ .waiting ∧ alookup s n.out = some dt ∧
      g' = { g.setNode n' with ready := r' } ∧ DepStep g n s st dt n' r' turned := by
  rcases Graph.depResolved_cases g t s st with ⟨n, dt, n', r', b, hn, hst, hdt, hstep, heq⟩ | ⟨e, heq, _⟩
  · cases heq.symm.trans h
    exact ⟨n, dt, n', r', hn, hst, hdt, rfl, hstep⟩
  · cases heq.symm.trans h

theorem Graph.depResolved_ne_fuel (g : Graph ι) (t s : ι) (st : St) :
    g.depResolved t s st ≠ .error DgErr.fuel := by
  rcases Graph.depResolved_cases g t s st with ⟨_, _, _, _, _, _, _, _, _, heq⟩ | ⟨e, heq, he⟩
  · rw [heq]; nofun
  · rw [heq]; exact fun h => he (Except.error.inj h)

section
variable {g : Graph ι} {n n' : Node ι} {s : ι} {st : St} {dt : Dep} {r' : List ι} {turned : Bool}

theorem DepStep.facts (hstep : DepStep g n s st dt n' r' turned) :
    n'.id = n.id ∧ keys n'.out = keys (aerase s n.out) ∧
      n'.res = (if st = .resolved then n.res ++ [(s, dt)] else n.res) ∧
      ((turned = false ∧ n'.status = n.status) ∨ (turned = true ∧ n.status = .waiting ∧ n'.status = .unres)) := by
  cases hstep with
  | soft _ => exact ⟨rfl, rfl, rfl, .inl ⟨rfl, rfl⟩⟩
  | failW hst _ hw => subst hst; exact ⟨rfl, keys_obviate _ _, rfl, .inr ⟨rfl, hw, rfl⟩⟩
  | failU hst _ _ => subst hst; exact ⟨rfl, keys_obviate _ _, rfl, .inl ⟨rfl, rfl⟩⟩
  | orWait hst _ _ => subst hst; exact ⟨rfl, rfl, rfl, .inl ⟨rfl, rfl⟩⟩
  | okReady o2 _ _ ho2 _ =>
    exact ⟨rfl, by rw [keys_obviate, ho2, apply_ite keys, keys_obviate, ite_self], rfl, .inl ⟨rfl, rfl⟩⟩
  | okWait o2 _ _ ho2 _ =>
    exact ⟨rfl, by rw [ho2, apply_ite keys, keys_obviate, ite_self], rfl, .inl ⟨rfl, rfl⟩⟩

theorem DepStep.mem_out (hstep : DepStep g n s st dt n' r' turned) {a : ι} :
    a ∈ keys n'.out ↔ a ∈ keys n.out ∧ a ≠ s := by
  rw [hstep.facts.2.1, mem_keys_aerase]

theorem DepStep.mem_res (hstep : DepStep g n s st dt n' r' turned) {a : ι} :
    a ∈ keys n'.res ↔ a ∈ keys n.res ∨ (st = .resolved ∧ a = s) := by
  rw [hstep.facts.2.2.1]
  by_cases hr : st = .resolved
  · rw [if_pos hr, keys_append, List.mem_append, and_iff_right hr]
    exact or_congr_right List.mem_singleton
  · rw [if_neg hr, or_iff_left fun h => hr h.1]

/-- the step leaves the ready set and the status alone (the entry was soft, or a hard one is left), or it marks the
target ready -/
theorem DepStep.ready_cases (hstep : DepStep g n s st dt n' r' turned) :
    (r' = g.ready ∧ n'.status = n.status ∧ (dt.hard = false → n'.out = aerase s n.out) ∧
      (dt.hard = true → ¬ allSoft n'.out)) ∨
    (r' = insertSet n.id g.ready ∧ dt.hard = true ∧ (n'.status = .unres ∨ allSoft n'.out)) := by
  have hhard : dt = .and ∨ (dt = .or ∧ hasDep .or (aerase s n.out) = false) → dt.hard = true := fun h => by
    rcases h with rfl | ⟨rfl, _⟩ <;> rfl
  cases hstep with
  | soft h => exact .inl ⟨rfl, rfl, fun _ => rfl, fun hh => nomatch h.symm.trans hh⟩
  | failW _ h _ => exact .inr ⟨rfl, hhard h, .inl rfl⟩
  | failU _ h hu => exact .inr ⟨rfl, hhard h, .inl hu⟩
  | orWait _ hor h =>
    obtain ⟨p, hp, hp2⟩ := hasDep_iff.1 h
    exact .inl ⟨rfl, rfl, fun hh => (nomatch hor ▸ hh), fun _ hs => absurd (hs p hp) (by rw [hp2]; nofun)⟩
  | okReady o2 hh _ _ hs => exact .inr ⟨rfl, hh, .inr (allSoft_obviate hs)⟩
  | okWait o2 hh _ _ hs => exact .inl ⟨rfl, rfl, fun h => (nomatch hh.symm.trans h), fun _ => hs⟩

theorem DepStep.of_turned (hstep : DepStep g n s st dt n' r' true) :
    st = .unres ∧ (dt = .and ∨ (dt = .or ∧ hasDep .or (aerase s n.out) = false)) ∧ n.status = .waiting := by
  cases hstep with
  | failW h1 h2 h3 => exact ⟨h1, h2, h3⟩

theorem DepStep.find? (hstep : DepStep g n s st dt n' r' turned) {t : ι} (hn : g.find? t = some n) (x : ι) :
    Graph.find? { g.setNode n' with ready := r' } x = if x = t then some n' else g.find? x :=
  Graph.find?_setNode_eq hn (hstep.facts.1.trans (Graph.find?_some hn).2) x

end

theorem Graph.addNode_success {g g' : Graph ι} {id : ι} (hok : g.addNode id = .ok g') :
    g.find? id = none ∧ g' = { g with nodes := g.nodes ++ [⟨id, .waiting, [], []⟩] } := by
  unfold Graph.addNode at hok
  split at hok
  · cases hok
  · next h => cases hok; exact ⟨Graph.has_false_iff.1 (eq_false_of_ne_true h), rfl⟩

theorem Graph.connect_success {g g' : Graph ι} {src dst : ι} {d : Dep} (hok : g.connect src dst d = .ok g') :
    ∃ m n, g.find? src = some m ∧ g.find? dst = some n ∧ src ≠ dst ∧ g.hasEdge src dst = false ∧
      g' = ({ g with edges := g.edges ++ [(src, dst, d)] } : Graph ι).setNode { n with out := n.out ++ [(src, d)] } := by
  unfold Graph.connect at hok
  split at hok
  · cases hok
  · cases hok
  · next m n hm hn =>
    split at hok
    · cases hok
    · next hne =>
      split at hok
      · cases hok
      · next he => cases hok; exact ⟨m, n, hm, hn, hne, eq_false_of_ne_true he, rfl⟩

theorem Graph.connect_ready {g g' : Graph ι} {src dst : ι} {d : Dep} (hok : g.connect src dst d = .ok g') :
    g'.ready = g.ready := by
  obtain ⟨_, _, _, _, _, _, rfl⟩ := Graph.connect_success hok
  rfl

theorem mem_foldl_insertSet {l : List (Node ι)} {r : List ι} {x : ι} :
    x ∈ l.foldl (fun r n => insertSet n.id r) r ↔ x ∈ r ∨ ∃ n ∈ l, n.id = x := by
  induction l generalizing r with
  | nil => exact ⟨.inl, fun h => h.elim id nofun⟩
  | cons a l ih =>
    rw [List.foldl_cons, ih, mem_insertSet]
    constructor
    · rintro ((rfl | h) | ⟨n, hn, rfl⟩)
      · exact .inr ⟨a, List.mem_cons_self, rfl⟩
      · exact .inl h
      · exact .inr ⟨n, List.mem_cons_of_mem _ hn, rfl⟩
    · rintro (h | ⟨n, hn, rfl⟩)
      · exact .inl (.inr h)
      · rcases List.mem_cons.1 hn with rfl | hn
        · exact .inl (.inl rfl)
        · exact .inr ⟨n, hn, rfl⟩

theorem Graph.mem_pushStarting_iff {g : Graph ι} {x : ι} :
    x ∈ g.pushStarting.ready ↔ x ∈ g.ready ∨ ∃ n ∈ g.nodes, allSoft n.out ∧ n.id = x := by
  unfold Graph.pushStarting
  rw [mem_foldl_insertSet]
  simp only [List.mem_filter, Bool.not_eq_eq_eq_not, Bool.not_true, List.any_eq_false, and_assoc, allSoft,
    Bool.not_eq_true]

theorem Graph.mem_popReady_iff {g : Graph ι} {id : ι} {st : St} :
    (id, st) ∈ g.popReady.1 ↔ id ∈ g.ready ∧ ∃ n, g.find? id = some n ∧ n.status = st := by
  simp only [Graph.popReady, List.mem_filterMap, Graph.statusOf, Option.map_eq_some_iff]
  constructor
  · rintro ⟨a, ha, b, ⟨n, hn, rfl⟩, h2⟩
    cases h2
    exact ⟨ha, n, hn, rfl⟩
  · rintro ⟨hx, n, hn, rfl⟩
    exact ⟨id, hx, n.status, ⟨n, hn, rfl⟩, rfl⟩

theorem Graph.find?_pushStarting (g : Graph ι) (x : ι) : g.pushStarting.find? x = g.find? x := rfl
theorem Graph.find?_popReady (g : Graph ι) (x : ι) : g.popReady.2.find? x = g.find? x := rfl
theorem Graph.find?_clone (g : Graph ι) (x : ι) : g.clone.find? x = g.find? x := rfl

theorem Graph.propagate_induction {P : Graph ι → List (ι × ι × St) → Prop}
    (step : ∀ {g g1 : Graph ι} {t s : ι} {st : St} {turned : Bool} {rest : List (ι × ι × St)},
      P g ((t, s, st) :: rest) → g.depResolved t s st = .ok (g1, turned) →
      P g1 ((if turned then (g1.succs t).map (fun c => (c, t, St.unres)) else []) ++ rest))
    {f : Nat} {g g' : Graph ι} {msgs : List (ι × ι × St)} (h : P g msgs)
    (hp : Graph.propagate f g msgs = .ok g') : P g' [] := by
  induction f generalizing g msgs with
  | zero =>
    cases msgs with
    | nil => cases hp; exact h
    | cons x rest => cases hp
  | succ f ih =>
    cases msgs with
    | nil => cases hp; exact h
    | cons x rest =>
      obtain ⟨t, s, st⟩ := x
      simp only [Graph.propagate] at hp
      split at hp
      · cases hp
      · next g1 turned hd => exact ih (step h hd) hp

section
variable {g g' : Graph ι} {id : ι} {st : St} {n : Node ι}

theorem Graph.resolve_notFound (hn : g.find? id = none) (st : St) : g.resolve id st = .error (.notFound id) := by
  simp only [Graph.resolve, hn]

theorem Graph.resolve_resolved (hn : g.find? id = some n) (hs : n.status = .resolved) (st : St) :
    g.resolve id st = .error (.alreadySet id .resolved st) := by
  simp only [Graph.resolve, hn, hs]

theorem Graph.resolve_unres (hn : g.find? id = some n) (hs : n.status = .unres) (st : St) :
    g.resolve id st = if st = .unres then .ok g else .error (.alreadySet id .unres st) := by
  simp only [Graph.resolve, hn, hs]

theorem Graph.resolve_waiting (hn : g.find? id = some n) (hs : n.status = .waiting) (hst : st ≠ .waiting) :
    g.resolve id st = Graph.propagate (g.edges.length + 1) (g.setNode { n with status := st })
      ((g.succs id).map (fun t => (t, id, st))) := by
  simp only [Graph.resolve, hn, hs, hst, if_false, Graph.succs_setNode]

theorem Graph.resolve_cases (hok : g.resolve id st = .ok g') :
    ∃ n, g.find? id = some n ∧ ((g' = g ∧ n.status = st ∧ st ≠ .resolved) ∨
      (n.status = .waiting ∧ st ≠ .waiting ∧
        Graph.propagate (g.edges.length + 1) (g.setNode { n with status := st })
          ((g.succs id).map (fun t => (t, id, st))) = .ok g')) := by
  cases hn : g.find? id with
  | none => rw [Graph.resolve_notFound hn] at hok; cases hok
  | some n =>
    refine ⟨n, rfl, ?_⟩
    cases hs : n.status with
    | resolved => rw [Graph.resolve_resolved hn hs] at hok; cases hok
    | unres =>
      rw [Graph.resolve_unres hn hs] at hok
      split at hok
      · next h => cases hok; exact .inl ⟨rfl, h.symm, h ▸ nofun⟩
      · cases hok
    | waiting =>
      by_cases hst : st = .waiting
      · simp only [Graph.resolve, hn, hs, hst, if_true] at hok
        cases hok; exact .inl ⟨rfl, hst.symm, hst ▸ nofun⟩
      · exact .inr ⟨rfl, hst, Graph.resolve_waiting hn hs hst ▸ hok⟩

theorem Graph.resolve_induction {P : Graph ι → List (ι × ι × St) → Prop} (hok : g.resolve id st = .ok g')
    (same : P g [])
    (start : ∀ n, g.find? id = some n → n.status = .waiting → st ≠ .waiting →
      P (g.setNode { n with status := st }) ((g.succs id).map (fun t => (t, id, st))))
    (step : ∀ {g g1 : Graph ι} {t s : ι} {st : St} {turned : Bool} {rest : List (ι × ι × St)},
      P g ((t, s, st) :: rest) → g.depResolved t s st = .ok (g1, turned) →
      P g1 ((if turned then (g1.succs t).map (fun c => (c, t, St.unres)) else []) ++ rest)) :
    P g' [] := by
  obtain ⟨n, hn, ⟨rfl, _, _⟩ | ⟨hw, hst, hp⟩⟩ := Graph.resolve_cases hok
  · exact same
  · exact Graph.propagate_induction step (start n hn hw hst) hp

end

/-- what can be said of a later graph of the same propagation without an invariant -/
structure Graph.Keeps (g g' : Graph ι) : Prop where
  edges : g'.edges = g.edges
  ids : g'.nodes.map (·.id) = g.nodes.map (·.id)
  ready_nodup : g.ready.Nodup → g'.ready.Nodup
  status_step : ∀ {x n n'}, g.find? x = some n → g'.find? x = some n' →
    n'.status = n.status ∨ (n.status = .waiting ∧ n'.status = .unres)
  res : ∀ {x n n'}, g.find? x = some n → g'.find? x = some n' → ∀ q ∈ n.res, q ∈ n'.res
  soft : ∀ {x n n'}, g.find? x = some n → g'.find? x = some n' → allSoft n.out →
    allSoft n'.out ∧ n'.status = n.status ∧ (x ∈ g'.ready → x ∈ g.ready)

theorem Graph.find?_of_ids {g g' : Graph ι} (hids : g'.nodes.map (·.id) = g.nodes.map (·.id)) {x : ι} {n : Node ι}
    (hn : g.find? x = some n) : ∃ n', g'.find? x = some n' := by
  cases h : g'.find? x with
  | some n' => exact ⟨n', rfl⟩
  | none =>
    rw [Graph.find?_none_iff, hids, ← Graph.find?_none_iff] at h
    rw [h] at hn; cases hn

namespace Graph.Keeps

theorem refl (g : Graph ι) : g.Keeps g := by
  refine ⟨rfl, rfl, id, fun h h' => ?_, fun h h' => ?_, fun h h' => ?_⟩ <;> cases h.symm.trans h'
  · exact .inl rfl
  · exact fun _ h => h
  · exact fun h => ⟨h, rfl, id⟩

theorem trans {a b c : Graph ι} (h1 : a.Keeps b) (h2 : b.Keeps c) : a.Keeps c := by
  refine ⟨h2.edges.trans h1.edges, h2.ids.trans h1.ids, fun h => h2.ready_nodup (h1.ready_nodup h),
    fun {x na nc} hna hnc => ?_, fun {x na nc} hna hnc => ?_, fun {x na nc} hna hnc hs => ?_⟩ <;>
    obtain ⟨nb, hnb⟩ := Graph.find?_of_ids h1.ids hna
  · rcases h1.status_step hna hnb with s1 | ⟨w1, u1⟩
    · exact s1 ▸ h2.status_step hnb hnc
    · rcases h2.status_step hnb hnc with s2 | ⟨w2, _⟩
      · exact .inr ⟨w1, s2.trans u1⟩
      · exact absurd (u1.symm.trans w2) nofun
  · exact fun q hq => h2.res hnb hnc q (h1.res hna hnb q hq)
  · obtain ⟨a1, a2, a3⟩ := h1.soft hna hnb hs
    obtain ⟨b1, b2, b3⟩ := h2.soft hnb hnc a1
    exact ⟨b1, b2.trans a2, fun h => a3 (b3 h)⟩

theorem status {g g' : Graph ι} (h : g.Keeps g') {x : ι} {n : Node ι} (hn : g.find? x = some n)
    (hs : n.status ≠ .waiting) : ∃ n', g'.find? x = some n' ∧ n'.status = n.status := by
  obtain ⟨n', hn'⟩ := Graph.find?_of_ids h.ids hn
  exact ⟨n', hn', (h.status_step hn hn').resolve_right fun h => hs h.1⟩

theorem resolved {g g' : Graph ι} (h : g.Keeps g') {x : ι} {n' : Node ι} (hn' : g'.find? x = some n')
    (hs : n'.status = .resolved) : ∃ n, g.find? x = some n ∧ n.status = .resolved := by
  obtain ⟨n, hn⟩ := Graph.find?_of_ids h.ids.symm hn'
  refine ⟨n, hn, ?_⟩
  rcases h.status_step hn hn' with h1 | ⟨_, h1⟩
  · exact h1 ▸ hs
  · exact absurd (hs.symm.trans h1) nofun

end Graph.Keeps

theorem Graph.depResolved_keeps {g g' : Graph ι} {t s : ι} {st : St} {turned : Bool}
    (h : g.depResolved t s st = .ok (g', turned)) : g.Keeps g' := by
  obtain ⟨n, dt, n', r', hn, _, hdt, rfl, hstep⟩ := Graph.depResolved_ok h
  obtain ⟨_, _, hres, hstatus⟩ := hstep.facts
  have hcase : ∀ {y m m'}, g.find? y = some m → Graph.find? { g.setNode n' with ready := r' } y = some m' →
      (y = t ∧ m = n ∧ m' = n') ∨ (y ≠ t ∧ m' = m) := fun {y m m'} hm hm' => by
    rw [hstep.find? hn] at hm'
    split at hm'
    · next hy => exact .inl ⟨hy, Graph.find?_unique hm (hy ▸ hn), (Option.some.inj hm').symm⟩
    · next hy => exact .inr ⟨hy, Graph.find?_unique hm' hm⟩
  refine ⟨rfl, Graph.setNode_ids g n', fun hnd => ?_, fun hm hm' => ?_, fun hm hm' q hq => ?_,
    fun {y m m'} hm hm' hsoft => ?_⟩
  · show r'.Nodup
    rcases hstep.ready_cases with ⟨h1, _⟩ | ⟨h1, _⟩ <;> rw [h1]
    · exact hnd
    · exact nodup_insertSet hnd
  · rcases hcase hm hm' with ⟨_, rfl, rfl⟩ | ⟨_, rfl⟩
    · exact hstatus.imp And.right And.right
    · exact .inl rfl
  · rcases hcase hm hm' with ⟨_, rfl, rfl⟩ | ⟨_, rfl⟩
    · rw [hres]
      split
      · exact List.mem_append_left _ hq
      · exact hq
    · exact hq
  · rcases hcase hm hm' with ⟨rfl, rfl, rfl⟩ | ⟨hy, rfl⟩
    · -- the entry consumed at an all-soft node is soft, so the node is not marked ready
      have hh := hsoft _ (alookup_some_mem hdt)
      rcases hstep.ready_cases with ⟨h1, h2, h3, _⟩ | ⟨_, hh', _⟩
      · exact ⟨fun p hp => hsoft p (mem_aerase.1 (h3 hh ▸ hp)).1, h2, fun hr => h1 ▸ (hr : y ∈ r')⟩
      · exact absurd (hh.symm.trans hh') Bool.false_ne_true
    · refine ⟨hsoft, rfl, fun hr => ?_⟩
      rcases hstep.ready_cases with ⟨h1, _⟩ | ⟨h1, _⟩
      · exact h1 ▸ (hr : y ∈ r')
      · exact (mem_insertSet.1 (h1 ▸ (hr : y ∈ r'))).resolve_left fun h => hy (h.trans (Graph.find?_some hn).2)

/-- a successful `resolve` is the status change of its node (none, if it had the status already) followed by
steps -/
theorem Graph.resolve_keeps_setStatus {g g' : Graph ι} {id : ι} {st : St} (hok : g.resolve id st = .ok g') :
    ∃ n, g.find? id = some n ∧ (n.status = .waiting ∨ n.status = st) ∧
      (g.setNode { n with status := st }).Keeps g' := by
  obtain ⟨n, hn, ⟨hg, hs, _⟩ | ⟨hw, hst, hp⟩⟩ := Graph.resolve_cases hok
  · subst hs
    rw [hg]
    -- not `Keeps.refl`: without `nodup`, `g.setNode n` need not be `g` (later nodes with the same id are overwritten
    -- too); only the look-ups agree
    have heq : ∀ {x m m'}, (g.setNode { n with status := n.status }).find? x = some m → g.find? x = some m' →
        m = m' := fun {x m m'} hm hm' => by
      rw [Graph.find?_setStatus hn n.status] at hm
      split at hm
      · next hx => cases hm; exact Graph.find?_unique (hx ▸ hn) hm'
      · exact Graph.find?_unique hm hm'
    refine ⟨n, hn, .inr rfl, rfl, (Graph.setNode_ids g _).symm, fun h => h, fun hm hm' => ?_, fun hm hm' => ?_,
      fun hm hm' => ?_⟩ <;> cases heq hm hm'
    · exact .inl rfl
    · exact fun _ h => h
    · exact fun h => ⟨h, rfl, fun h => h⟩
  · exact ⟨n, hn, .inl hw, Graph.propagate_induction (P := fun g1 _ => (g.setNode { n with status := st }).Keeps g1)
      (fun h hd => h.trans (Graph.depResolved_keeps hd)) (Graph.Keeps.refl _) hp⟩

theorem Graph.resolve_frame (g g' : Graph ι) (id : ι) (st : St) (hok : g.resolve id st = .ok g') :
    g'.edges = g.edges ∧ g'.nodes.map (·.id) = g.nodes.map (·.id) := by
  obtain ⟨n, _, _, h⟩ := Graph.resolve_keeps_setStatus hok
  exact ⟨h.edges, h.ids.trans (Graph.setNode_ids g _)⟩

section
variable {g g' : Graph ι} {id : ι} {st : St}

theorem Graph.resolve_status (hok : g.resolve id st = .ok g') {x : ι} {n : Node ι} (hn : g.find? x = some n)
    (hs : n.status ≠ .waiting) : ∃ n', g'.find? x = some n' ∧ n'.status = n.status := by
  obtain ⟨m, hm, hc, hk⟩ := Graph.resolve_keeps_setStatus hok
  have hf := Graph.find?_setStatus hm st x
  by_cases hx : x = id
  · subst hx
    have hst : n.status = st := (Graph.find?_unique hm hn ▸ hc).resolve_left hs
    rw [if_pos rfl] at hf
    obtain ⟨n', hn', hs'⟩ := hk.status hf fun h => hs (hst.trans h)
    exact ⟨n', hn', hs'.trans hst.symm⟩
  · rw [if_neg hx] at hf
    exact hk.status (hf.trans hn) hs

theorem Graph.resolve_resolved_only {x : ι} {n' : Node ι}
    (hok : g.resolve id st = .ok g') (hn : g'.find? x = some n') (hs : n'.status = St.resolved) :
    (x = id ∧ st = St.resolved) ∨ ∃ n, g.find? x = some n ∧ n.status = St.resolved := by
  obtain ⟨m, hm, _, hk⟩ := Graph.resolve_keeps_setStatus hok
  obtain ⟨n0, hn0, hs0⟩ := hk.resolved hn hs
  rw [Graph.find?_setStatus hm st] at hn0
  split at hn0
  · next hx => cases hn0; exact .inl ⟨hx, hs0⟩
  · exact .inr ⟨n0, hn0, hs0⟩

theorem Graph.resolve_status_self (hst : st ≠ St.waiting)
    (hok : g.resolve id st = .ok g') : ∃ n', g'.find? id = some n' ∧ n'.status = st := by
  obtain ⟨m, hm, _, hk⟩ := Graph.resolve_keeps_setStatus hok
  have hf := Graph.find?_setStatus hm st id
  rw [if_pos rfl] at hf
  exact hk.status hf hst

/-- every message of the propagation carries `resolved`, and such a message never turns its target -/
theorem Graph.resolve_resolved_status {g g' : Graph ι} {id : ι} (hok : g.resolve id St.resolved = .ok g')
    {x : ι} {n : Node ι} (hn : g.find? x = some n) (hx : x ≠ id) :
    ∃ n', g'.find? x = some n' ∧ n'.status = n.status := by
  refine (Graph.resolve_induction
    (P := fun g1 msgs => (∀ p ∈ msgs, p.2.2 = St.resolved) ∧ ∃ n', g1.find? x = some n' ∧ n'.status = n.status)
    hok ⟨nofun, n, hn, rfl⟩ (fun m hm _ _ => ⟨?_, n, ?_, rfl⟩) ?_).2
  · intro p hp
    obtain ⟨t, _, rfl⟩ := List.mem_map.1 hp
    rfl
  · rw [Graph.find?_setNode_ne (by rw [(Graph.find?_some hm).2]; exact hx)]; exact hn
  · intro g0 g1 t s st turned rest ⟨hall, n0, hn0, hs0⟩ hd
    obtain rfl : st = St.resolved := hall _ List.mem_cons_self
    obtain ⟨m, dt, m', r', hm, _, _, rfl, hstep⟩ := Graph.depResolved_ok hd
    obtain ⟨_, _, _, hst⟩ := hstep.facts
    have ht : turned = false ∧ m'.status = m.status := by
      rcases hst with h | ⟨rfl, _⟩
      · exact h
      · exact absurd hstep.of_turned.1 nofun
    refine ⟨by rw [ht.1]; exact fun p hp => hall p (List.mem_cons_of_mem _ hp), ?_⟩
    rw [hstep.find? hm]
    split
    · next hxt => subst hxt; cases hm.symm.trans hn0; exact ⟨m', rfl, ht.2.trans hs0⟩
    · exact ⟨n0, hn0, hs0⟩

end

/-- `Graph.Keeps` for an explicit resolution of `x`: only `x` itself may change status among the all-soft nodes -/
theorem Graph.resolve_keeps {g g' : Graph ι} {x : ι} {st : St}
    (hok : g.resolve x st = .ok g') :
    (g.ready.Nodup → g'.ready.Nodup) ∧
    ∀ y n, g.find? y = some n → ∃ n', g'.find? y = some n' ∧ (∀ q ∈ n.res, q ∈ n'.res) ∧
      (allSoft n.out → allSoft n'.out ∧ (y ≠ x → n'.status = n.status) ∧ (y ∈ g'.ready → y ∈ g.ready)) := by
  obtain ⟨m, hm, _, hk⟩ := Graph.resolve_keeps_setStatus hok
  refine ⟨hk.ready_nodup, fun y n hn => ?_⟩
  have hf := Graph.find?_setStatus hm st y
  by_cases hy : y = x
  · subst hy
    obtain rfl := Graph.find?_unique hn hm
    rw [if_pos rfl] at hf
    obtain ⟨n', hn'⟩ := Graph.find?_of_ids hk.ids hf
    exact ⟨n', hn', hk.res (n := { n with status := st }) hf hn',
      fun h => ⟨(hk.soft hf hn' h).1, fun h' => absurd rfl h', (hk.soft hf hn' h).2.2⟩⟩
  · rw [if_neg hy] at hf
    obtain ⟨n', hn'⟩ := Graph.find?_of_ids hk.ids (hf.trans hn)
    exact ⟨n', hn', hk.res (hf.trans hn) hn', fun h => (hk.soft (hf.trans hn) hn' h).imp_right (.imp_left fun h _ => h)⟩

theorem popReady_ids_nodup (g : Graph ι) (h : g.ready.Nodup) : (g.popReady.1.map Prod.fst).Nodup := by
  have : g.popReady.1.map Prod.fst = g.ready.filter (fun id => (g.statusOf id).isSome) := by
    unfold Graph.popReady
    simp only [List.map_filterMap]
    rw [← List.filterMap_eq_filter]
    congr 1
    funext id
    cases hs : g.statusOf id <;> simp [Option.guard, hs]
  rw [this]
  exact h.filter _

theorem Graph.resolve_ok_waiting {g g' : Graph ι} {id : ι} (hok : g.resolve id St.resolved = .ok g') :
    ∃ n, g.find? id = some n ∧ n.status = St.waiting := by
  obtain ⟨n, hn, ⟨_, _, h⟩ | ⟨hw, _⟩⟩ := Graph.resolve_cases hok
  · exact absurd rfl h
  · exact ⟨n, hn, hw⟩

end Arca.Model
