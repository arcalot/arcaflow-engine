/-
Soundness of the model of `infer.Type` on homogeneous literals.
-/
import Arca.Model.Infer

namespace Arca.Proofs.InferSound
open Arca.Model.Infer

theorem inferItems_found : (rest : Lits) → (f : ITy) → (r : Option ITy) →
    inferItems rest (some f) = some r → r = some f
  | .nil, f, r, h => by
    simp only [inferItems] at h
    cases h; rfl
  | .cons x rest, f, r, h => by
    simp only [inferItems] at h
    split at h
    · cases h
    · split at h
      · exact inferItems_found rest f r h
      · cases h

theorem litTid_of_infer {v : Lit} {t : ITy} (h : infer v = some t) : litTid v = some t.tid := by
  cases v <;> simp only [infer] at h <;> (try split at h) <;> cases h <;> rfl

theorem litTid_of_accepts {t : ITy} {v : Lit} (h : accepts t v = true) : litTid v = some t.tid := by
  unfold accepts at h
  split at h <;> first | rfl | cases h

theorem infer_list_cons {x : Lit} {rest : Lits} {t0 t : ITy} (hx : infer x = some t0)
    (hl : infer (.list (.cons x rest)) = some t) : t = .list t0 := by
  simp only [infer, inferItems, hx] at hl
  split at hl
  · cases hl
  · next hr => cases inferItems_found rest t0 _ hr
  · next hr => cases inferItems_found rest t0 _ hr; cases hl; rfl

mutual
  theorem sound_lit : (v : Lit) → (t : ITy) → infer v = some t → wf v = true → homog v = true → accepts t v = true
    | .null, t, hi, _, _ => by cases hi
    | .str _, t, hi, _, _ | .float, t, hi, _, _ | .bool _, t, hi, _, _ | .list .nil, t, hi, _, _ => by cases hi; rfl
    | .int lo hi' i, t, hi, hw, _ => by cases hi; exact hw
    | .list (.cons x rest), t, hi, hw, hh => by
      cases hx : infer x with
      | none => simp [infer, inferItems, hx] at hi
      | some t0 =>
        cases infer_list_cons hx hi
        simp only [wf, wfItems, Bool.and_eq_true] at hw
        simp only [homog, homogItems, hx, Bool.and_eq_true] at hh
        simp only [accepts, acceptsAll, Bool.and_eq_true]
        exact ⟨sound_lit x t0 hx hw.1 hh.1.1, hh.2⟩
    | .obj fs, t, hi, hw, hh => by
      simp only [infer] at hi
      split at hi
      · cases hi
      · next ps hf =>
        cases hi
        exact sound_fields fs ps hf hw hh
  theorem sound_fields : (fs : Fields) → (ps : IProps) → inferFields fs = some ps → wfFields fs = true →
      homogFields fs = true → acceptsObj ps fs = true
    | .nil, ps, hf, _, _ => by cases hf; rfl
    | .cons k v rest, ps, hf, hw, hh => by
      simp only [inferFields] at hf
      split at hf
      · cases hf
      · next t hv =>
        split at hf
        · cases hf
        · next ps' hr =>
          cases hf
          simp only [wfFields, Bool.and_eq_true] at hw
          simp only [homogFields, Bool.and_eq_true] at hh
          simp only [acceptsObj, Bool.and_eq_true, decide_eq_true_eq]
          exact ⟨⟨trivial, sound_lit v t hv hw.1 hh.1⟩, sound_fields rest ps' hr hw.2 hh.2⟩
end

/-- `inferItems_found` once more; the hypothesis on `acceptsAll` is not used -/
theorem homog_items_same_tid (t : ITy) : (rest : Lits) → acceptsAll t rest = true →
    (∀ r, inferItems rest (some t) = some r → r = some t) := fun rest _ r h => inferItems_found rest t r h

end Arca.Proofs.InferSound
