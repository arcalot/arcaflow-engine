/-
Decidable order checks on control skeletons (token lists of `Arca.Gen.Skel`), beside those of `Arca.Model.Skel`
(Model/SkelUtil.lean); used by the C07 and C19 obligations that tie a model to the statement order of the real function.
-/
namespace Arca.Proofs.Ty

/-- `pat` occurs in `s` (both as code-point lists) -/
def hasSub (pat : List Char) : List Char → Bool
  | [] => pat.isEmpty
  | c :: cs => pat.isPrefixOf (c :: cs) || hasSub pat cs

/-- the token `a` occurs in the list and no token satisfying `p` occurs before its first occurrence -/
def occursBefore (a : String) (p : String → Bool) : List String → Bool
  | [] => false
  | t :: ts => if t == a then true else if p t then false else occursBefore a p ts

/-- the tokens that follow the first occurrence of `a` -/
def after (a : String) : List String → List String
  | [] => []
  | t :: ts => if t == a then ts else after a ts

/-- the token mentions the call that starts a step (`runnableStep.Start(...)`) -/
def mentionsStart (t : String) : Bool := hasSub "runnableStep.Start".toList t.toList

theorem occursBefore_sound {a : String} {p : String → Bool} {l : List String} (h : occursBefore a p l = true) :
    ∃ pre post, l = pre ++ a :: post ∧ ∀ t ∈ pre, p t = false := by
  induction l with
  | nil => cases h
  | cons t ts ih =>
    simp only [occursBefore] at h
    split at h
    · next hta => exact ⟨[], ts, by rw [eq_of_beq hta]; rfl, fun _ hu => nomatch hu⟩
    · split at h
      · cases h
      · next hp =>
        obtain ⟨pre, post, hl, hpre⟩ := ih h
        refine ⟨t :: pre, post, by rw [hl]; rfl, fun u hu => ?_⟩
        rcases List.mem_cons.mp hu with rfl | hu
        · simpa using hp
        · exact hpre u hu

end Arca.Proofs.Ty
