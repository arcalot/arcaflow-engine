/-
Invariants of the gate transition system `Arca.Model.Gate` (C04, provider part): for every interleaving of the callers of
`ProvideStageInput` / `Close` with `run()`, whatever decisions are plugged in.
-/
import Arca.Model.PluginGate
import Arca.Proofs.ListLemmas

namespace Arca.Model.Gate
open Arca.Model
open Arca.Proofs (ite_eq_iff)

/-- `run()` has passed the enable gate with `enabled = true` -/
def passed : Pc → Bool
  | .w2 | .w3 | .parkedStart | .executing => true
  | _ => false

def beforeAnnounce : Pc → Bool
  | .w0 | .parkedDeploy | .deploying | .w1 | .parkedEnable | .w2 => true
  | _ => false

structure Inv (c : Cfg) (s : GState) : Prop where
  /-- the bool in the channel is the decision on the accepted raw value -/
  chan : s.enabledCh = none ∨ ∃ i, s.given = some i ∧ s.enabledCh = some (c.enabledDec.eval i)
  /-- past the gate only with a raw value on which the decision is true -/
  pass : passed s.pc = true → ∃ i, s.given = some i ∧ c.enabledDec.eval i = true
  /-- the disabled end only with a raw value on which the decision is false -/
  dis : s.pc = .disabledEnd → ∃ i, s.given = some i ∧ c.enabledDec.eval i = false
  /-- a second enabling input is refused once one is in the channel or was consumed -/
  avail : (s.enabledCh.isSome = true ∨ passed s.pc = true ∨ s.pc = .disabledEnd) → s.enabledAvail = true
  /-- a goroutine never stays parked once the context is cancelled -/
  parked : (s.pc = .parkedDeploy ∨ s.pc = .parkedEnable ∨ s.pc = .parkedStart) → s.ctxDone = false
  /-- an early stop leaves only the closed / failed ends open -/
  early : s.stoppedEarly = true →
    s.ctxDone = true ∧ (s.pc = .w0 ∨ s.pc = .deploying ∨ s.pc = .closedEnd ∨ s.pc = .deployFailedEnd)
  /-- the starting stage is announced by the non-blocking receive only -/
  ann : beforeAnnounce s.pc = true → s.announced = false
  /-- with `parked`: the flag is down while `run()` is parked, which `inv_cancelCtx` needs for `sea` -/
  sba : s.stoppedBeforeAnnounce = true → s.ctxDone = true
  /-- an early stop that came before the announcement of the starting stage: that stage is never announced -/
  sea : s.stoppedEarly = true → s.stoppedBeforeAnnounce = true → s.announced = false

theorem inv_init (c : Cfg) : Inv c init := by
  constructor <;> simp [init, passed, beforeAnnounce]

section
variable {c : Cfg} {s : GState}

theorem Inv.not_early (hi : Inv c s)
    (h : s.ctxDone = false ∨ ¬(s.pc = .w0 ∨ s.pc = .deploying ∨ s.pc = .closedEnd ∨ s.pc = .deployFailedEnd)) :
    s.stoppedEarly = false :=
  Bool.eq_false_iff.mpr fun he => h.elim (fun hc => by simp [(hi.early he).1] at hc) (absurd (hi.early he).2)

theorem inv_goto (hi : Inv c s) {q : Pc} (hq : s.pc = q) (p : Pc)
    (hpark : p = .parkedDeploy ∨ p = .parkedEnable ∨ p = .parkedStart → s.ctxDone = false)
    (hearly : s.stoppedEarly = false ∨ p = .w0 ∨ p = .deploying ∨ p = .closedEnd ∨ p = .deployFailedEnd)
    (hqp : (passed p = true → passed q = true) ∧ p ≠ .disabledEnd ∧ (beforeAnnounce p = true → beforeAnnounce q = true) :=
      by decide) : Inv c { s with pc := p } :=
  { hi with
    pass := fun h => hi.pass (hq ▸ hqp.1 h)
    dis := fun h => absurd h hqp.2.1
    avail := fun h => hi.avail (h.imp id (.imp (hq ▸ hqp.1) (absurd · hqp.2.1)))
    parked := hpark
    early := fun h => ⟨(hi.early h).1, hearly.resolve_left (ne_false_of_eq_true h)⟩
    ann := fun h => hi.ann (hq ▸ hqp.2.2 h) }

theorem inv_end (hi : Inv c s) {p : Pc} (hp : p = .closedEnd ∨ p = .deployFailedEnd) : Inv c { s with pc := p } := by
  rcases hp with rfl | rfl <;> exact inv_goto hi rfl _ (by simp) (by simp) ⟨by simp [passed], by simp, by simp [beforeAnnounce]⟩

theorem inv_goto_live (hi : Inv c s) {q : Pc} (hq : s.pc = q) (p : Pc) (hctx : s.ctxDone = false)
    (hqp : (passed p = true → passed q = true) ∧ p ≠ .disabledEnd ∧ (beforeAnnounce p = true → beforeAnnounce q = true) :=
      by decide) : Inv c { s with pc := p } :=
  inv_goto hi hq p (fun _ => hctx) (.inl (hi.not_early (.inl hctx))) hqp

/-- `e` is the channel afterwards: emptied by the receive, or empty all along (hand-off from the provider) -/
theorem inv_recvEnabled (hi : Inv c s) {i : Option Val} {e : Option Bool} (hpc : s.pc = .w1 ∨ s.pc = .parkedEnable)
    (hg : s.given = some i) (hav : s.enabledAvail = true) (he : e = none) :
    Inv c { s with pc := if c.enabledDec.eval i then .w2 else .disabledEnd, enabledCh := e } :=
  have hne : s.stoppedEarly = false := hi.not_early (.inr (by rcases hpc with h | h <;> simp [h]))
  have han : s.announced = false := hi.ann (by rcases hpc with h | h <;> simp [h, beforeAnnounce])
  { hi with
    chan := .inl he
    pass := fun h => ⟨i, hg, Decidable.byContradiction fun hb => by simp [hb, passed] at h⟩
    dis := fun h => ⟨i, hg, Bool.eq_false_iff.mpr fun hb => by simp [hb] at h⟩
    avail := fun _ => hav
    parked := by split <;> simp
    early := fun h => by simp [hne] at h
    ann := fun _ => han }

theorem inv_cancelCtx (hi : Inv c s) : Inv c (cancelCtx s) := by
  simp only [cancelCtx]
  split
  · rename_i hp
    -- a parked goroutine is committed to the context case; the context was not cancelled, so the ghost flag was down
    have hsba : s.stoppedBeforeAnnounce = false :=
      Bool.eq_false_iff.mpr fun h => absurd (hi.sba h) (by simp [hi.parked hp])
    exact { inv_end hi (.inl rfl) with
      parked := by simp
      early := fun _ => ⟨rfl, .inr (.inr (.inl rfl))⟩
      sba := fun _ => rfl
      sea := fun _ hb => by simpa [hsba] using hb }
  · rename_i hnp
    -- not parked: a stop that counts as early finds `run()` at `w0` or in `deploying`
    have hwd (h : s.pc = .w0 ∨ s.pc = .parkedDeploy ∨ s.pc = .deploying ∨ s.pc = .parkedEnable ∨
        s.pc = .parkedStart) : s.pc = .w0 ∨ s.pc = .deploying := by
      simp only [not_or] at hnp
      simpa [hnp] using h
    exact { hi with
      parked := fun h => absurd h hnp
      early := fun he => ⟨rfl, ((Bool.or_eq_true _ _).mp he).elim (fun h => (hi.early h).2)
        fun h => (hwd (of_decide_eq_true h)).imp id .inl⟩
      sba := fun _ => rfl
      sea := fun he hb => by
        rcases (Bool.or_eq_true _ _).mp he with h | h
        · rcases (Bool.or_eq_true _ _).mp hb with hb | hb
          · exact hi.sea h hb
          · simpa using hb
        · rcases hwd (of_decide_eq_true h) with h | h <;> exact hi.ann (by simp [h, beforeAnnounce]) }

end

theorem inv_step {c : Cfg} {s s' : GState} {a : GAct} (hi : Inv c s) (hs : step c s a = some s') : Inv c s' := by
  -- each case names the clauses that mention a field the action writes; the others carry over
  cases a <;> simp only [step, ite_eq_iff, reduceCtorEq, and_false, or_false, false_or, Option.some.injEq] at hs
  case provideDeploy =>
    obtain ⟨_, ⟨hpc, rfl⟩ | ⟨_, rfl⟩⟩ := hs
    · -- the update with nothing in it carries the clauses over to a state that differs in a field none of them mentions
      exact { inv_goto_live hi hpc .deploying (hi.parked (.inl hpc)) with }
    · exact { hi with }
  case recvDeploy =>
    obtain ⟨hpc, ⟨_, rfl⟩ | ⟨_, ⟨_, rfl⟩ | ⟨hctx, rfl⟩⟩⟩ := hs
    · exact { inv_goto hi hpc .deploying (by simp) (.inr (.inr (.inl rfl))) with }
    · exact inv_end hi (.inl rfl)
    · exact inv_goto_live hi hpc .parkedDeploy (eq_false_of_ne_true hctx)
  case provideEnabling i =>
    obtain ⟨hav, _, hs⟩ := hs
    -- no enabling input was accepted so far: nothing is in the channel and `run()` is before the gate
    have hno := mt hi.avail hav
    have hch : s.enabledCh = none := Option.not_isSome_iff_eq_none.mp fun h => hno (.inl h)
    have hi1 : Inv c { s with enabledAvail := true, given := some i } :=
      { hi with
        chan := .inl hch
        pass := fun h => absurd (.inr (.inl h)) hno
        dis := fun h => absurd (.inr (.inr h)) hno
        avail := fun _ => rfl }
    obtain ⟨hpc, rfl⟩ | ⟨_, rfl⟩ := hs
    · exact inv_recvEnabled hi1 (.inr hpc) rfl rfl hch
    · exact { hi1 with chan := .inr ⟨i, rfl, rfl⟩, avail := fun _ => rfl }
  case provideStarting =>
    obtain ⟨_, ⟨hpc, rfl⟩ | ⟨_, rfl⟩⟩ := hs
    · exact { inv_goto_live hi hpc .executing (hi.parked (.inr (.inr hpc))) with }
    · exact { hi with }
  case provideCancelled =>
    have hi1 : Inv c { s with stopAvail := true } := { hi with }
    obtain ⟨_, ⟨_, rfl⟩ | ⟨_, rfl⟩⟩ := hs
    · exact inv_cancelCtx hi1
    · exact hi1
  case close => exact hs ▸ inv_cancelCtx hi
  case deployOk =>
    obtain ⟨hpc, ⟨_, rfl⟩ | ⟨hctx, rfl⟩⟩ := hs
    · exact inv_end hi (.inl rfl)
    · exact inv_goto_live hi hpc .w1 (eq_false_of_ne_true hctx)
  case deployFail => exact hs.2 ▸ inv_end hi (.inr rfl)
  case evalEnableSelect pick =>
    obtain ⟨hpc, hs⟩ := hs
    have hrecv (b : Bool) (hch : s.enabledCh = some b) :
        Inv c { s with pc := if b then .w2 else .disabledEnd, enabledCh := none } := by
      rcases hi.chan with h | ⟨i, hg, h⟩
      · simp [hch] at h
      · rw [hch] at h
        cases h
        exact inv_recvEnabled hi (.inl hpc) hg (hi.avail (.inl (by simp [hch]))) rfl
    -- the cases come in the order of the four rows of the `match` in `step`, each with its row's equations in context
    split at hs
    · split at hs <;> cases hs
      · exact inv_end hi (.inl rfl)
      · exact hrecv _ ‹_›
    · cases hs
      exact hrecv _ ‹_›
    · cases hs
      exact inv_end hi (.inl rfl)
    · cases hs
      exact inv_goto_live hi hpc .parkedEnable ‹_›
  case recvRunNonBlocking =>
    obtain ⟨hpc, hs⟩ := hs
    have hpass : passed s.pc = true := by simp [hpc, passed]
    have hne := hi.not_early (.inr (by simp [hpc]))
    obtain ⟨_, rfl⟩ | ⟨_, rfl⟩ := hs <;> exact { hi with
      pass := fun _ => hi.pass hpass
      dis := nofun
      avail := fun _ => hi.avail (.inr (.inl hpass))
      parked := by simp
      early := fun h => by simp [hne] at h
      ann := by simp [beforeAnnounce]
      sea := fun h => by simp [hne] at h }
  case evalStartSelect pick =>
    obtain ⟨hpc, hs⟩ := hs
    have hexec : Inv c { s with pc := .executing, runCh := false } :=
      { inv_goto hi hpc .executing (by simp) (.inl (hi.not_early (.inr (by simp [hpc])))) with }
    -- again in the order of the rows of the `match` in `step`
    split at hs
    · split at hs <;> cases hs
      · exact inv_end hi (.inl rfl)
      · exact hexec
    · cases hs
      exact hexec
    · cases hs
      exact inv_end hi (.inl rfl)
    · cases hs
      exact inv_goto_live hi hpc .parkedStart ‹_›

theorem reach_inv {c : Cfg} {s : GState} (h : Reach c s) : Inv c s := by
  induction h with
  | init => exact inv_init c
  | step a _ hs ih => exact inv_step ih hs

end Arca.Model.Gate
