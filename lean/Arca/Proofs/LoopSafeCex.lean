/-
Why eight hypotheses of the statements of `LoopSafe.lean` are there — `OrdNodup`; `ready_nodup`, `ready_group`, `group_soft`
of `LoopSafeInv`; `input_no_deps`, `input_kind` of `WF2`; and, in `LoopFinishedCex.lean`, `LoopSafeInv.finished` and
`WF2.stage_unamb`: for each one a THEOREM refuting the statement without it (the reactions are evaluated by the kernel,
`decide +kernel`), and witnesses that the hypotheses are satisfiable (`PC_wf2`).
-/
import Arca.Proofs.LoopCheckSound

namespace Arca.Model.SafeCex

/-- `Prepared.WF2` without `input_no_deps`, `input_kind` and `stage_unamb` -/
structure WF2Orig (P : Prepared) : Prop where
  wf : P.WF
  output_nodes : ∀ step stage o, P.declares step stage → o ∈ P.outputsOf step stage →
      (lookup (outputNodeId step stage o) P.items).isSome = true ∧
      (∀ ed ∈ P.dag.edges, ed.2.1 = outputNodeId step stage o → ed.1 = stageNodeId step stage ∧ ed.2.2 = Dep.and)
  stage_data_map : ∀ id it d, lookup id P.items = some it → it.kind = Kind.stage → it.data = some d →
      ∃ kvs, d = InVal.map kvs
  stage_ids_nonempty : ∀ id it, lookup id P.items = some it → it.kind = Kind.stage → it.step ≠ "" ∧ it.stage ≠ ""
  kinds_handled : ∀ id it, lookup id P.items = some it → it.data.isSome = true → it.kind = Kind.stage ∨ it.kind = Kind.output

/-- the family of the workflows used here and in `LoopFinishedCex`: well-formed (`Prepared.WFOK`), no stage declares an
output, no item has data; a form that can be evaluated -/
def Plain (P : Prepared) : Prop :=
  P.WFOK ∧ (∀ p ∈ P.stages, ∀ q ∈ p.2, q.2 = []) ∧
  ∀ p ∈ P.items, p.2.data.isNone = true ∧ (p.2.kind = Kind.stage → p.2.step ≠ "" ∧ p.2.stage ≠ "")

instance (P : Prepared) : Decidable (Plain P) := by unfold Plain; infer_instance

theorem Plain.wf2orig {P : Prepared} (h : Plain P) : WF2Orig P := by
  obtain ⟨hwf, hout, hit⟩ := h
  have hno : ∀ step stage, P.outputsOf step stage = [] := by
    intro step stage
    unfold Prepared.outputsOf
    split
    · rfl
    · rename_i sts hsts
      cases ho : lookup stage sts with
      | none => rfl
      | some outs => exact hout _ (mem_of_lookup hsts) _ (mem_of_lookup ho)
  have hnd : ∀ {id it}, lookup id P.items = some it → it.data = none := fun h =>
    Option.isNone_iff_eq_none.1 (hit _ (mem_of_lookup h)).1
  refine ⟨hwf.sound, ?_, ?_, fun id it h => (hit _ (mem_of_lookup h)).2, ?_⟩
  · intro step stage o _ hm
    rw [hno] at hm; cases hm
  · intro id it d h _ hd
    rw [hnd h] at hd; cases hd
  · intro id it h hd
    rw [hnd h] at hd; cases hd

/-- `WF2` from `WF2Orig` and the three other clauses, as the driver decides them -/
theorem WF2Orig.wf2 {P : Prepared} (h : WF2Orig P) (h1 : ∀ ed ∈ P.dag.edges, ed.2.1 ≠ "input")
    (h2 : inputItemB P = true) (h3 : ∀ p ∈ P.stages, ∀ q ∈ p.2, stageItemB P p.1 q.1 = true) : P.WF2 :=
  ⟨h.wf, h.output_nodes, h.stage_data_map, h.stage_ids_nonempty, h.kinds_handled, h1, fun _ => inputItemB_sound h2,
    Prepared.stageUnamb_of_stageItemB h3⟩

/-- one declared stage `s` of step `a` without outputs, no item data -/
structure Simple (P : Prepared) : Prop where
  stages : P.stages = [("a", [("s", [])])]
  inv : P.dag.Inv
  fresh : ∀ n ∈ P.dag.nodes, n.status = St.waiting ∧ n.res = []
  no_ready : P.dag.ready = []
  items_nodes : ∀ n ∈ P.dag.nodes, (lookup n.id P.items).isSome = true
  items : ∀ id it, lookup id P.items = some it → it.kind ≠ Kind.stageOutput ∧ it.data = none ∧
      (it.kind = Kind.stage → id = "steps.a.s" ∧ it.step = "a" ∧ it.stage = "s")
  stage_item : ∀ it, lookup "steps.a.s" P.items = some it → it.kind = Kind.stage

theorem Simple.declares {P : Prepared} (h : Simple P) {step stage : String} (hd : P.declares step stage) :
    step = "a" ∧ stage = "s" := by
  obtain ⟨sts, outs, h1, h2⟩ := hd
  rw [h.stages] at h1
  simp only [lookup] at h1
  split at h1
  · cases h1
    simp only [lookup] at h2
    split at h2
    · constructor <;> assumption
    · cases h2
  · cases h1

def nd (id : String) (out : List (String × Dep)) : Node String := ⟨id, .waiting, out, []⟩
def itS : Item := { kind := .stage, step := "a", stage := "s" }
def itG : Item := { kind := .group }
def fns0 : Fns := fun _ _ => .error (.unknownFn "")
def ordDup : Order := fun l => l ++ l
def hasPanic (l : List Action) : Bool := l.any Action.isPanic

theorem ordDup_ok : OrdOK ordDup := by
  intro l x hx
  rcases List.mem_append.1 hx with h | h <;> exact h

theorem ordId_ok : OrdOK id := fun _ _ h => h
theorem ordId_nodup : OrdNodup id := fun _ h => h

theorem not_nopanic {l : List Action} (h : hasPanic l = true) : ¬ ∀ a ∈ l, a.isPanic = false := by
  intro hall
  obtain ⟨a, ha, hp⟩ := List.any_eq_true.1 h
  rw [hall a ha] at hp
  cases hp

/-- input → stage `steps.a.s` (and), input → group `g` (optional) -/
def PC : Prepared :=
  { dag := ⟨[nd "input" [], nd "steps.a.s" [("input", .and)], nd "g" [("input", .opt)]],
            [("input", "steps.a.s", .and), ("input", "g", .opt)], []⟩,
    items := [("input", { kind := .input }), ("steps.a.s", itS), ("g", itG)],
    stages := [("a", [("s", [])])],
    errCap := 5 }

/-- `WF2` is satisfiable (by a workflow with a dependency-group node) -/
theorem PC_wf2 : PC.WF2 :=
  (Plain.wf2orig (by decide +kernel)).wf2 (by decide +kernel) (by decide +kernel) (by decide +kernel)

-- with an order that does not duplicate, the history of `hist_needs_OrdNodup` is fine
theorem ceA_id_fine : hasPanic (run PC fns0 id [.start .null]).2 = false := by decide +kernel

/-- `legal_history_never_panics` without `OrdNodup` is false: the order `l ↦ l ++ l` processes the dependency-group node
`g` twice after `start`; the second `ResolveNode(Resolved)` is refused: `panic groupResolve` -/
theorem hist_needs_OrdNodup :
    ¬ (∀ (P : Prepared) (fns : Fns) (ord : Order), OrdOK ord → P.WF2 → ∀ h : List Event,
        LegalHistory P fns ord (LoopState.init P) h →
        (∀ a ∈ (run P fns ord h).2, a.isPanic = false) ∧ (run P fns ord h).1.dead = false) := fun H =>
  not_nopanic (by decide +kernel : hasPanic (run PC fns0 ordDup [.start .null]).2 = true)
    (H PC fns0 ordDup ordDup_ok PC_wf2 _ (legalHistoryB_sound _ _ (by decide +kernel))).1

/-- the initial state of `PC`, but with `g` twice in the ready set (`g` only has a soft dependency) -/
def sB : LoopState := { LoopState.init PC with dag := { PC.dag with ready := ["g", "g"] } }

/-- `react_legal_no_panic` with `ResolvedClosed` as the only extra state hypothesis is false (even with `OrdNodup`): the
ready set may contain a dependency-group node twice -/
theorem react_needs_ready_nodup :
    ¬ (∀ (P : Prepared) (fns : Fns) (ord : Order), OrdOK ord → OrdNodup ord → P.WF2 → ∀ (s : LoopState) (e : Event),
        LoopDagInv P s → ResolvedClosed s.dag → LegalEvent P s e →
        (∀ a ∈ (react P fns ord s e).2, a.isPanic = false) ∧ ResolvedClosed (react P fns ord s e).1.dag) := fun H =>
  not_nopanic (by decide +kernel : hasPanic (react PC fns0 id sB (.start .null)).2 = true)
    (H PC fns0 id ordId_ok ordId_nodup PC_wf2 sB (.start .null) ⟨(by constructor <;> decide +kernel), rfl, rfl⟩
      (by decide +kernel) (legalEventB_sound (by decide +kernel))).1

/-- `input` and `g` resolved, the stage node waiting, and `g` (again) in the ready set -/
def sC : LoopState :=
  { LoopState.init PC with
    dag := ⟨[⟨"input", .resolved, [], []⟩, ⟨"steps.a.s", .waiting, [], [("input", .and)]⟩,
             ⟨"g", .resolved, [], [("input", .opt)]⟩],
            [("input", "steps.a.s", .and), ("input", "g", .opt)], ["g"]⟩ }

/-- ... and with a duplicate-free ready set: the resolved group node `g` sits in the ready set (legal `stageFail`) -/
theorem react_needs_ready_group :
    ¬ (∀ (P : Prepared) (fns : Fns) (ord : Order), OrdOK ord → OrdNodup ord → P.WF2 → ∀ (s : LoopState) (e : Event),
        LoopDagInv P s → ResolvedClosed s.dag → s.dag.ready.Nodup → LegalEvent P s e →
        (∀ a ∈ (react P fns ord s e).2, a.isPanic = false) ∧ ResolvedClosed (react P fns ord s e).1.dag) := fun H =>
  not_nopanic (by decide +kernel : hasPanic (react PC fns0 id sC (.stageFail "a" "s")).2 = true)
    (H PC fns0 id ordId_ok ordId_nodup PC_wf2 sC (.stageFail "a" "s") ⟨(by constructor <;> decide +kernel), rfl, rfl⟩
      (by decide +kernel) (by decide +kernel) (legalEventB_sound (by decide +kernel))).1

/-- input → stage `steps.a.s` (and), `steps.a.s` → group `g` (completion dependency `cand`) -/
def PD : Prepared :=
  { dag := ⟨[nd "input" [], nd "steps.a.s" [("input", .and)], nd "g" [("steps.a.s", .cand)]],
            [("input", "steps.a.s", .and), ("steps.a.s", "g", .cand)], []⟩,
    items := [("input", { kind := .input }), ("steps.a.s", itS), ("g", itG)],
    stages := [("a", [("s", [])])],
    errCap := 5 }

theorem PD_wf2 : PD.WF2 :=
  (Plain.wf2orig (by decide +kernel)).wf2 (by decide +kernel) (by decide +kernel) (by decide +kernel)

/-- `input` resolved, the stage node waiting, `g` resolved although its completion dependency is outstanding; the
ready set is empty -/
def sD : LoopState :=
  { LoopState.init PD with
    dag := ⟨[⟨"input", .resolved, [], []⟩, ⟨"steps.a.s", .waiting, [], [("input", .and)]⟩,
             ⟨"g", .resolved, [("steps.a.s", .cand)], []⟩],
            [("input", "steps.a.s", .and), ("steps.a.s", "g", .cand)], []⟩ }

/-- ... and with no resolved group node in the ready set: the resolved group node `g` still has a hard (`cand`)
outstanding entry, and a legal `stageFail` of its source makes `g` ready again -/
theorem react_needs_group_soft :
    ¬ (∀ (P : Prepared) (fns : Fns) (ord : Order), OrdOK ord → OrdNodup ord → P.WF2 → ∀ (s : LoopState) (e : Event),
        LoopDagInv P s → ResolvedClosed s.dag → s.dag.ready.Nodup →
        (∀ id ∈ s.dag.ready, isGroup P id → ¬ statusIs s.dag id St.resolved) → LegalEvent P s e →
        (∀ a ∈ (react P fns ord s e).2, a.isPanic = false) ∧ ResolvedClosed (react P fns ord s e).1.dag) := fun H =>
  not_nopanic (by decide +kernel : hasPanic (react PD fns0 id sD (.stageFail "a" "s")).2 = true)
    (H PD fns0 id ordId_ok ordId_nodup PD_wf2 sD (.stageFail "a" "s") ⟨(by constructor <;> decide +kernel), rfl, rfl⟩
      (by decide +kernel) List.nodup_nil (fun _ h => nomatch h) (legalEventB_sound (by decide +kernel))).1

/-- the `input` node depends (`and`) on the stage node `steps.a.s` -/
def PE : Prepared :=
  { dag := ⟨[nd "steps.a.s" [], nd "input" [("steps.a.s", .and)]], [("steps.a.s", "input", .and)], []⟩,
    items := [("input", { kind := .input }), ("steps.a.s", itS)],
    stages := [("a", [("s", [])])],
    errCap := 5 }

/-- `legal_history_never_panics` with `WF2Orig` for `WF2` is false, even with `OrdNodup`: `start` resolves `input` (closure
lost), then the legal `stageFail a s` cannot mark the stage node unresolvable: `panic markStageNodeUnresolvable` -/
theorem hist_needs_input_no_deps :
    ¬ (∀ (P : Prepared) (fns : Fns) (ord : Order), OrdOK ord → OrdNodup ord → WF2Orig P → ∀ h : List Event,
        LegalHistory P fns ord (LoopState.init P) h →
        (∀ a ∈ (run P fns ord h).2, a.isPanic = false) ∧ (run P fns ord h).1.dead = false) := fun H =>
  not_nopanic (by decide +kernel : hasPanic (run PE fns0 id [.start .null, .stageFail "a" "s"]).2 = true)
    (H PE fns0 id ordId_ok ordId_nodup (Plain.wf2orig (by decide +kernel)) _
      (legalHistoryB_sound _ _ (by decide +kernel))).1

/-- already the first reaction (`start`, legal in the initial state) loses the closure of resolved nodes: `input` is
resolved while its `and` dependency `steps.a.s` is not -/
theorem react_start_breaks_closed :
    ¬ ResolvedClosed (react PE fns0 id (LoopState.init PE) (.start .null)).1.dag := by decide +kernel

/-- the item of the `input` node is a dependency group -/
def PF : Prepared :=
  { dag := ⟨[nd "input" []], [], []⟩,
    items := [("input", itG)],
    stages := [("a", [("s", [])])],
    errCap := 5 }

/-- ... and with `input_no_deps`: `start` panics (`groupResolve`) -/
theorem hist_needs_input_kind :
    ¬ (∀ (P : Prepared) (fns : Fns) (ord : Order), OrdOK ord → OrdNodup ord → WF2Orig P →
        (∀ ed ∈ P.dag.edges, ed.2.1 ≠ "input") → ∀ h : List Event,
        LegalHistory P fns ord (LoopState.init P) h →
        (∀ a ∈ (run P fns ord h).2, a.isPanic = false) ∧ (run P fns ord h).1.dead = false) := fun H =>
  not_nopanic (by decide +kernel : hasPanic (run PF fns0 id [.start .null]).2 = true)
    (H PF fns0 id ordId_ok ordId_nodup (Plain.wf2orig (by decide +kernel)) (fun _ h => nomatch h) _
      (legalHistoryB_sound _ _ (by decide +kernel))).1

theorem PC_run_fine :
    hasPanic (run PC fns0 id [.start .null, .stageChange "a" (some "s") none false]).2 = false := by decide +kernel

end Arca.Model.SafeCex
