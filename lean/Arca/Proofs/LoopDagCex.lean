/-
Witnesses and counterexamples for `LoopDag.lean`: `Prepared.WF` is satisfiable by workflows with stage outputs and with a
dependency-group node below a stage (`P0_wf`, `P2_wf`); the `#guard`s replay, on the executable model, the counterexamples
to `react_data_inv` without `DataMap`, `EventOK` or `WF.output_unamb`: the state before the reaction satisfies `LoopDagInv`
and `DataInv`, the loop stays alive, a stage-output node is `resolved` and its value is NOT in the data model.
-/
import Arca.Proofs.LoopCheckSound

namespace Arca.Model.Cex

def nd (id : String) (out : List (String × Dep)) : Node String := ⟨id, .waiting, out, []⟩

def itA : Item := { kind := .stage, step := "a", stage := "s" }
def itO : Item := { kind := .stageOutput, step := "a", stage := "s", output := "o" }
def itB : Item := { kind := .stage, step := "b", stage := "t", data := some (.lit (.map [])), hasSchema := true }

/-- input → steps.a.s (stage) → steps.a.s.o (stage output) → steps.b.t (stage with a literal input) -/
def P0 : Prepared :=
  { dag := ⟨[nd "input" [], nd "steps.a.s" [("input", .and)], nd "steps.a.s.o" [("steps.a.s", .and)],
             nd "steps.b.t" [("steps.a.s.o", .and)]],
            [("input", "steps.a.s", .and), ("steps.a.s", "steps.a.s.o", .and), ("steps.a.s.o", "steps.b.t", .and)], []⟩,
    items := [("input", { kind := .input }), ("steps.a.s", itA), ("steps.a.s.o", itO), ("steps.b.t", itB)],
    stages := [("a", [("s", ["o"])]), ("b", [("t", [])])],
    errCap := 5 }

theorem P0_wf : P0.WF := Prepared.WFOK.sound (by decide +kernel)

/-- `WF` does not exclude stage outputs -/
theorem WF_has_stage_outputs : ∃ P : Prepared, P.WF ∧ ∃ id it, lookup id P.items = some it ∧ it.kind = Kind.stageOutput :=
  ⟨P0, P0_wf, "steps.a.s.o", itO, by simp [P0, lookup], rfl⟩

def itK : Item := { kind := .group }

/-- `P0` plus the node `steps.a.s.k` of kind `group` (what `createGroupNode` builds for a tagged value under key `k`
of the input of stage `s` of step `a`).  Its id is `outputNodeId "a" "s" "k"` although it is no stage output: `WF`
(clauses only about *declared* outputs) accepts it, `output_kind` for arbitrary `out` does not. -/
def P2 : Prepared :=
  { dag := ⟨[nd "input" [], nd "steps.a.s.k" [("input", .and)],
             nd "steps.a.s" [("input", .and), ("steps.a.s.k", .opt)], nd "steps.a.s.o" [("steps.a.s", .and)],
             nd "steps.b.t" [("steps.a.s.o", .and)]],
            [("input", "steps.a.s.k", .and), ("input", "steps.a.s", .and), ("steps.a.s.k", "steps.a.s", .opt),
             ("steps.a.s", "steps.a.s.o", .and), ("steps.a.s.o", "steps.b.t", .and)], []⟩,
    items := [("input", { kind := .input }), ("steps.a.s.k", itK), ("steps.a.s", itA), ("steps.a.s.o", itO),
              ("steps.b.t", itB)],
    stages := [("a", [("s", ["o"])]), ("b", [("t", [])])],
    errCap := 5 }

/-- `Prepared.WF` holds of a workflow with a group node `steps.a.s.k` below the declared stage `s` of step `a` -/
theorem P2_wf : P2.WF := Prepared.WFOK.sound (by decide +kernel)

/-- `output_kind` quantified over every `out` (as in `WFOrig`) is false of `P2` -/
theorem P2_not_output_kind_all :
    ¬ ∀ step stage out it, P2.declares step stage →
        lookup (outputNodeId step stage out) P2.items = some it → it.kind = Kind.stageOutput := by
  intro H
  have : ∀ it ∈ lookup (outputNodeId "a" "s" "k") P2.items, it.kind = Kind.stageOutput :=
    fun it hit => H "a" "s" "k" it (declaresB_iff.1 (by decide +kernel)) hit
  revert this
  decide +kernel

def fns0 : Fns := fun _ _ => .error (.unknownFn "")
def ord0 : Order := id

def resolvedB (s : LoopState) (id : String) : Bool :=
  match s.dag.statusOf id with
  | some .resolved => true
  | _ => false

/-- alive, the stage-output node `id` is resolved, and its value is absent from the data model -/
def violates (s : LoopState) (step stage out id : String) : Bool :=
  !s.dead && resolvedB s id && !(lookupData s.data step stage out).isSome

/-- no node among `ids` is resolved (so `DataInv` holds trivially for the stage outputs among them) -/
def noneResolved (s : LoopState) (ids : List String) : Bool := ids.all (fun id => !resolvedB s id)

def provided (acts : List Action) (step stage : String) : Bool :=
  acts.any (fun a => match a with | .provide a b _ => a == step && b == stage | _ => false)

def done : Event := .stageChange "a" (some "s") (some ("o", .str "x")) false

-- the normal run keeps the invariant: the output is resolved and its data is present
#guard resolvedB (run P0 fns0 ord0 [.start .null, done]).1 "steps.a.s.o"
#guard !violates (run P0 fns0 ord0 [.start .null, done]).1 "a" "s" "o" "steps.a.s.o"

/-- CE1 (`DataMap` is needed): same state as after `start`, but the data model is not a map -/
def s1 : LoopState := { (run P0 fns0 ord0 [.start .null]).1 with data := .null }
#guard noneResolved s1 ["steps.a.s.o"]                                   -- `DataInv P0 s1`
#guard violates (react P0 fns0 ord0 s1 done).1 "a" "s" "o" "steps.a.s.o"  -- `DataInv` broken
#guard provided (react P0 fns0 ord0 s1 done).2 "b" "t"                    -- and `b/t` is provided nevertheless

/-- CE2 (`EventOK`, `start`): a second `start` replaces the data model while the output stays resolved -/
def s2 : LoopState := (run P0 fns0 ord0 [.start .null, done]).1
#guard !violates s2 "a" "s" "o" "steps.a.s.o"                                     -- `DataInv P0 s2`
#guard violates (react P0 fns0 ord0 s2 (.start .null)).1 "a" "s" "o" "steps.a.s.o"  -- broken

/-- CE3 (`EventOK`, declared stages): the callback names the undeclared stage `s.o` of step `a`; its "stage node"
`steps.a.s.o` is the output node of (a, s, o), which gets resolved without any data -/
def s3 : LoopState := (run P0 fns0 ord0 [.start .null, .stageChange "a" (some "s") none false]).1
#guard noneResolved s3 ["steps.a.s.o"]
#guard violates (react P0 fns0 ord0 s3 (.stageChange "a" (some "s.o") none false)).1 "a" "s" "o" "steps.a.s.o"
#guard provided (react P0 fns0 ord0 s3 (.stageChange "a" (some "s.o") none false)).2 "b" "t"

/-- CE4 (`WF.output_unamb`): the id `steps.a.b.c.d` is the output `d` of (step `a`, stage `b.c`) for its item and the
output `d` of (step `a.b`, stage `c`) for the callback; both stages are declared -/
def P1 : Prepared :=
  { dag := ⟨[nd "input" [], nd "steps.a.b.c" [("input", .and)], nd "steps.a.b.c.d" [("steps.a.b.c", .and)]],
            [("input", "steps.a.b.c", .and), ("steps.a.b.c", "steps.a.b.c.d", .and)], []⟩,
    items := [("input", { kind := .input }),
              ("steps.a.b.c", { kind := .stage, step := "a.b", stage := "c" }),
              ("steps.a.b.c.d", { kind := .stageOutput, step := "a", stage := "b.c", output := "d" })],
    stages := [("a", [("b.c", ["d"])]), ("a.b", [("c", ["d"])])],
    errCap := 5 }
def s4 : LoopState := (run P1 fns0 ord0 [.start .null]).1
#guard noneResolved s4 ["steps.a.b.c.d"]
#guard violates (react P1 fns0 ord0 s4 (.stageChange "a.b" (some "c") (some ("d", .str "x")) false)).1
  "a" "b.c" "d" "steps.a.b.c.d"

/-- CE5 (`EventDeclared`, declared outputs): as `P1`, but `d` is not a declared output of (step `a.b`, stage `c`);
`WF.output_unamb` then says nothing about the callback's id, and a callback reporting the undeclared output `d` of the
declared stage (`a.b`, `c`) resolves the output node of (`a`, `b.c`, `d`) while storing the value elsewhere -/
def P1' : Prepared := { P1 with stages := [("a", [("b.c", ["d"])]), ("a.b", [("c", [])])] }
def s5 : LoopState := (run P1' fns0 ord0 [.start .null]).1
#guard noneResolved s5 ["steps.a.b.c.d"]
#guard violates (react P1' fns0 ord0 s5 (.stageChange "a.b" (some "c") (some ("d", .str "x")) false)).1
  "a" "b.c" "d" "steps.a.b.c.d"

-- a normal run on `P2` (group node present): the group node is resolved by the loop, the invariant is kept
#guard resolvedB (run P2 fns0 ord0 [.start .null]).1 "steps.a.s.k"
#guard !violates (run P2 fns0 ord0 [.start .null, done]).1 "a" "s" "o" "steps.a.s.o"
#guard provided (run P2 fns0 ord0 [.start .null, done]).2 "b" "t"

end Arca.Model.Cex
