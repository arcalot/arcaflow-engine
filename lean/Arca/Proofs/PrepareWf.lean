/-
Which operations `Wf.ops` consists of (`mem_ops`, `edge_mem_ops`) and what a reference resolves to; with the facts about
the lifecycle tables (`Arca.Gen`) the argument needs.
-/
import Arca.Model.Prepare
import Arca.Proofs.PrepareOps

namespace Arca.Model
open Arca.Gen (StageRow pluginStages foreachStages)

/-! ### facts about the generated lifecycle tables (re-checked whenever `Arca.Gen.Lifecycle` changes) -/

theorem next_is_row : ∀ k : StepKind, ∀ row ∈ rowsOf k, ∀ nd ∈ row.next, ∃ row' ∈ rowsOf k, row'.id = nd.1 := by
  intro k; cases k <;> decide +kernel

/-- a lifecycle edge that is not a plain `and` never points at a stage that takes input fields; so an expression
dependency of a stage (always `and`, tolerated when the connection exists) cannot coincide with it -/
theorem soft_next_no_fields : ∀ k : StepKind, ∀ row ∈ rowsOf k, ∀ nd ∈ row.next, nd.2 ≠ Dep.and →
    ∀ row' ∈ rowsOf k, row'.id = nd.1 → row'.inputFields = [] := by
  intro k; cases k <;> decide +kernel

theorem rows_nodup : ∀ k : StepKind, ((rowsOf k).map (·.id)).Nodup := by
  intro k; cases k <;> decide +kernel

theorem enabling_row : ∀ k : StepKind, ∃ row ∈ rowsOf k, row.id = "enabling" := by
  intro k; cases k <;> decide +kernel

theorem mem_allSites {wf : Wf} {σ : Site} :
    σ ∈ wf.allSites ↔
      (∃ s ∈ wf.steps, ∃ row ∈ rowsOf s.kind, ∃ f ∈ row.inputFields, ∃ a, lookup f s.fields = some a ∧
          σ ∈ sites (.stage s.id row.id) [] a) ∨
      (∃ o ∈ wf.outputs, σ ∈ sites (.wfout o.1) [] o.2) := by
  simp only [Wf.allSites, Wf.roots, List.flatMap_append, List.mem_append, List.mem_flatMap, List.mem_filterMap,
    List.mem_map, Option.map_eq_some_iff]
  constructor
  · rintro (⟨_, ⟨s, hs, row, hrow, f, hf, a, ha, rfl⟩, h⟩ | ⟨_, ⟨o, ho, rfl⟩, h⟩)
    · exact Or.inl ⟨s, hs, row, hrow, f, hf, a, ha, h⟩
    · exact Or.inr ⟨o, ho, h⟩
  · rintro (⟨s, hs, row, hrow, f, hf, a, ha, h⟩ | ⟨o, ho, h⟩)
    · exact Or.inl ⟨_, ⟨s, hs, row, hrow, f, hf, a, ha, rfl⟩, h⟩
    · exact Or.inr ⟨_, ⟨o, ho, rfl⟩, h⟩

theorem mem_failIf {b : Bool} {r : Reject} {op : Op} : op ∈ failIf b r ↔ b = true ∧ op = .fail r := by
  cases b <;> simp [failIf]

theorem mem_fieldOps {R : Resolver} {s : Step} {row : StageRow} {f : String} {op : Op} :
    op ∈ fieldOps R s row f ↔ ∃ a, lookup f s.fields = some a ∧ op ∈ opsIn R (.stage s.id row.id) [] a := by
  unfold fieldOps
  cases lookup f s.fields <;> simp

theorem mem_rowNodeOps {po : List String} {s : String} {row : StageRow} {op : Op} :
    op ∈ rowNodeOps po s row ↔ op = .node (.stage s row.id) ∨
      ∃ o ∈ rowOuts po row, op = .node (.out s row.id o) ∨ op = .edge (.stage s row.id) (.out s row.id o) .and false := by
  simp only [rowNodeOps, List.mem_cons, List.mem_flatMap, List.mem_nil_iff, or_false]

theorem mem_stepEdgeOps {R : Resolver} {s : Step} {op : Op} :
    op ∈ stepEdgeOps R s ↔
      (∃ row ∈ rowsOf s.kind, ∃ nd ∈ row.next, op = .edge (.stage s.id row.id) (.stage s.id nd.1) nd.2 false) ∨
      (∃ row ∈ rowsOf s.kind, ∃ f ∈ row.inputFields, ∃ a, lookup f s.fields = some a ∧
          op ∈ opsIn R (.stage s.id row.id) [] a) := by
  simp only [stepEdgeOps, rowEdgeOps, List.mem_flatMap, List.mem_append, List.mem_map, mem_fieldOps, and_or_left,
    exists_or, @eq_comm _ op]

theorem mem_ops {po : List String} {wf : Wf} {op : Op} :
    op ∈ wf.ops po ↔
      (wf.steps.isEmpty = true ∧ op = .fail .noSteps) ∨ op = .node .input ∨
      (∃ s ∈ wf.steps, ∃ row ∈ rowsOf s.kind, op ∈ rowNodeOps po s.id row) ∨
      (∃ s ∈ wf.steps, ∃ row ∈ rowsOf s.kind, ∃ nd ∈ row.next,
          op = .edge (.stage s.id row.id) (.stage s.id nd.1) nd.2 false) ∨
      (wf.outputs.isEmpty = true ∧ op = .fail .noOutputs) ∨
      (∃ o ∈ wf.outputs, op = .node (.wfout o.1)) ∨
      ∃ σ ∈ wf.allSites, op ∈ siteOps (wf.resolve po) σ := by
  simp only [Wf.ops, stepNodeOps, outputOps, List.mem_append, List.mem_flatMap, List.mem_cons, List.mem_nil_iff,
    or_false, mem_failIf, mem_stepEdgeOps, opsIn_eq, mem_allSites]
  constructor
  · rintro (((((h | h) | h) | ⟨s, hs, h | ⟨row, hrow, f, hf, a, ha, σ, hσ, h⟩⟩) | h) | ⟨o, ho, rfl | ⟨σ, hσ, h⟩⟩)
    · exact Or.inl h
    · exact Or.inr (Or.inl h)
    · exact Or.inr (Or.inr (Or.inl h))
    · exact Or.inr (Or.inr (Or.inr (Or.inl ⟨s, hs, h⟩)))
    · exact Or.inr (Or.inr (Or.inr (Or.inr (Or.inr (Or.inr ⟨σ, Or.inl ⟨s, hs, row, hrow, f, hf, a, ha, hσ⟩, h⟩)))))
    · exact Or.inr (Or.inr (Or.inr (Or.inr (Or.inl h))))
    · exact Or.inr (Or.inr (Or.inr (Or.inr (Or.inr (Or.inl ⟨o, ho, rfl⟩)))))
    · exact Or.inr (Or.inr (Or.inr (Or.inr (Or.inr (Or.inr ⟨σ, Or.inr ⟨o, ho, hσ⟩, h⟩)))))
  · rintro (h | h | h | ⟨s, hs, h⟩ | h | ⟨o, ho, rfl⟩ | ⟨σ, ⟨s, hs, row, hrow, f, hf, a, ha, hσ⟩ | ⟨o, ho, hσ⟩, h⟩)
    · exact Or.inl (Or.inl (Or.inl (Or.inl (Or.inl h))))
    · exact Or.inl (Or.inl (Or.inl (Or.inl (Or.inr h))))
    · exact Or.inl (Or.inl (Or.inl (Or.inr h)))
    · exact Or.inl (Or.inl (Or.inr ⟨s, hs, Or.inl h⟩))
    · exact Or.inl (Or.inr h)
    · exact Or.inr ⟨o, ho, Or.inl rfl⟩
    · exact Or.inl (Or.inl (Or.inr ⟨s, hs, Or.inr ⟨row, hrow, f, hf, a, ha, σ, hσ, h⟩⟩))
    · exact Or.inr ⟨o, ho, Or.inr ⟨σ, hσ, h⟩⟩

section
variable {po : List String} {wf : Wf}

theorem site_mem_ops {σ : Site} {op : Op} (hσ : σ ∈ wf.allSites) (h : op ∈ siteOps (wf.resolve po) σ) :
    op ∈ wf.ops po :=
  mem_ops.2 (.inr (.inr (.inr (.inr (.inr (.inr ⟨σ, hσ, h⟩))))))

theorem stage_mem_ops {s : Step} {row : StageRow} (hs : s ∈ wf.steps) (hrow : row ∈ rowsOf s.kind) :
    Op.node (.stage s.id row.id) ∈ wf.ops po :=
  mem_ops.2 (.inr (.inr (.inl ⟨s, hs, row, hrow, mem_rowNodeOps.2 (.inl rfl)⟩)))

theorem edge_mem_ops {a b : NodeId} {d : Dep} {tol : Bool} :
    Op.edge a b d tol ∈ wf.ops po ↔
      (tol = false ∧ ((a, b, d) ∈ wf.stageOutS po ∨ (a, b, d) ∈ wf.lifecycleS)) ∨
      ∃ σ ∈ wf.allSites, Op.edge a b d tol ∈ siteOps (wf.resolve po) σ := by
  simp only [mem_ops, Wf.stageOutS, Wf.lifecycleS, List.mem_flatMap, List.mem_map, mem_rowNodeOps, reduceCtorEq,
    and_false, false_or, exists_false, Op.edge.injEq, Prod.mk.injEq, ← and_assoc, exists_and_right,
    @eq_comm _ a, @eq_comm _ b, @eq_comm _ d, and_comm (a := tol = false), or_and_right, or_assoc]

theorem Wf.resolve_ok {p : List String} {a : NodeId} (h : wf.resolve po p = .ok a) :
    a = .input ∨
    (∃ s ∈ wf.steps, ∃ row ∈ rowsOf s.kind, a = .stage s.id row.id) ∨
    (∃ s ∈ wf.steps, ∃ row ∈ rowsOf s.kind, ∃ o ∈ rowOuts po row, a = .out s.id row.id o) := by
  unfold Wf.resolve at h
  repeat' split at h
  all_goals first | cases h | skip
  all_goals simp_all
  all_goals
    obtain ⟨h1, h2⟩ := List.of_find?_decide ‹wf.findStep _ = _›
    obtain ⟨h3, h4⟩ := List.of_find?_decide ‹findRow _ _ = _›
  · exact ⟨_, h1, _, h3, h2.symm, h4.symm⟩
  · exact ⟨_, h1, _, h3, _, ‹_›, h2.symm, h4.symm, rfl⟩

theorem resolve_isRef {p : List String} {a : NodeId} (h : wf.resolve po p = .ok a) : a.isRef := by
  rcases Wf.resolve_ok h with rfl | ⟨s, _, row, _, rfl⟩ | ⟨s, _, row, _, o, _, rfl⟩ <;> trivial

theorem mem_impliedS {x : Edge} : x ∈ wf.impliedS po ↔ ∃ σ ∈ wf.allSites, x ∈ siteEdges (wf.resolve po) σ := by
  simp only [Wf.impliedS, List.mem_flatMap]

end

end Arca.Model
