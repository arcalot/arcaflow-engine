/-
`floatToInt` on the exact scaled-integer value of a double.
-/
import Arca.Model.Builtins

-- Lean evaluates `2 ^ n` for literal `n` only up to this threshold (default 256); the largest here is `2 ^ 2098`
-- (`scaledAbs` of ±Inf)
set_option exponentiation.threshold 4096

namespace Arca.Proofs.Builtins
open Arca.Model Arca.Model.Builtins

theorem unit_pos : 0 < unit := by unfold unit; exact Nat.pow_pos (by decide)

theorem unit_pos' : (0 : Int) < (unit : Int) := Int.natCast_pos.2 unit_pos

theorem scaledAbs_inf {b : Nat} (h : isInf b = true) : scaledAbs b = 2 ^ 2098 := by
  unfold isInf at h
  have he : fExp b = 2047 := by
    cases h1 : (fExp b == 2047) <;> simp_all
  have hm : fMant b = 0 := by
    cases h1 : (fMant b == 0) <;> simp_all
  unfold scaledAbs
  rw [he, hm]
  decide +kernel

theorem scaled_of_neg {b : Nat} (h : fSign b = true) : scaled b = -(scaledAbs b : Int) := by
  unfold scaled; simp [h]

theorem scaled_of_pos {b : Nat} (h : fSign b = false) : scaled b = (scaledAbs b : Int) := by
  unfold scaled; simp [h]

theorem div_bounds (n k : Nat) (hk : 0 < k) : n / k * k ≤ n ∧ n < (n / k + 1) * k :=
  ⟨Nat.div_mul_le_self n k, Nat.lt_mul_of_div_lt (Nat.lt_succ_self _) hk⟩

theorem tdiv_scaled (b : Nat) :
    (scaled b).tdiv unit = if fSign b then -((scaledAbs b / unit : Nat) : Int) else ((scaledAbs b / unit : Nat) : Int) := by
  unfold scaled; split
  · rw [Int.neg_tdiv, Int.ofNat_tdiv]
  · rw [Int.ofNat_tdiv]

/-- the infinities, valued ±2^1024, need no case of their own: the clamp covers them -/
theorem floatToInt_eq {b : Nat} (h : isNaN b = false) :
    floatToInt b = some (max minInt64 (min ((scaled b).tdiv unit) maxInt64)) := by
  have hq : isInf b = true → scaledAbs b / unit ≥ 2 ^ 63 := fun hi => by
    rw [scaledAbs_inf hi]; unfold unit; decide +kernel
  rw [tdiv_scaled]; unfold floatToInt minInt64 maxInt64
  generalize scaledAbs b / unit = q at *
  cases hi : isInf b <;> cases hs : fSign b <;>
    simp only [h, hi, Bool.not_false, Bool.not_true, Bool.and_true, Bool.and_false, Bool.true_and, Bool.false_and,
      if_true, if_false, Bool.false_eq_true, decide_eq_true_eq, forall_const, false_implies] at hq ⊢
  · split <;> (congr 1; omega)
  · split <;> (congr 1; omega)
  · congr 1; omega
  · congr 1; omega

theorem floatToInt_nan {b : Nat} (h : isNaN b = true) : floatToInt b = none := by
  have hi : isInf b = false := by
    unfold isNaN at h; unfold isInf
    cases hm : (fMant b == 0) <;> simp_all
  unfold floatToInt
  simp [hi, h]

theorem floatToInt_some_not_nan {b : Nat} {a : Int} (h : floatToInt b = some a) : isNaN b = false := by
  cases hn : isNaN b
  · rfl
  · rw [floatToInt_nan hn] at h; cases h

end Arca.Proofs.Builtins
