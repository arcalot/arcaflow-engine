/-
Invariants of the action list (C01: no blocking send, at most one output, bounded error buffer, "no more outputs" once;
they feed C03 / C07).  Each is an invariant of `Step`, so it holds after one reaction (`react_reach`) and after a whole run
(`runFrom_reach`).
-/
import Arca.Proofs.LoopLemmas

namespace Arca.Model

def Action.isOutput : Action → Bool
  | .output _ _ => true
  | _ => false

def Action.isStuck : Action → Bool
  | .stuck => true
  | _ => false

def Action.isPanic : Action → Bool
  | .panic _ => true
  | _ => false

/-- "all outputs marked as unresolvable" was reported (sent or dropped because the buffer was full) -/
def Action.isNoMoreOutputs : Action → Bool
  | .errorSent .noMoreOutputs => true
  | .errorDropped .noMoreOutputs => true
  | _ => false

def countP (p : Action → Bool) (l : List Action) : Nat := (l.filter p).length

def b2n (b : Bool) : Nat := if b then 1 else 0

section Steps
variable {P : Prepared}

theorem step_no_stuck {a b : R} (h : Step P a b) (ha : ∀ x ∈ a.2, x.isStuck = false) :
    ∀ x ∈ b.2, x.isStuck = false := by
  cases h <;> simp only [emit, die, sendErr, doCancel] <;> repeat' split
  all_goals first
    | exact ha
    | exact List.forall_mem_append.2 ⟨ha, List.forall_mem_singleton.2 rfl⟩

theorem step_dead_mono {a b : R} (h : Step P a b) (ha : a.1.dead = true) : b.1.dead = true := by
  cases h <;> simp only [emit, die, sendErr, doCancel] <;> repeat' split
  all_goals first | exact ha | rfl

theorem step_acts_prefix {a b : R} (h : Step P a b) : ∃ l, b.2 = a.2 ++ l := by
  cases h <;> simp only [emit, die, sendErr, doCancel] <;> repeat' split
  all_goals first
    | exact ⟨[], (List.append_nil _).symm⟩
    | exact ⟨_, rfl⟩

theorem step_dead_panic {a b : R} (h : Step P a b)
    (ha : a.1.dead = true → ∃ x ∈ a.2, x.isPanic = true) :
    b.1.dead = true → ∃ x ∈ b.2, x.isPanic = true := by
  cases h <;> simp only [emit, die, sendErr, doCancel] <;> repeat' split
  all_goals first
    | exact ha
    | exact fun _ => ⟨.panic _, List.mem_append_right _ (List.mem_singleton_self _), rfl⟩
    | (intro hd
       obtain ⟨x, hx, hp⟩ := ha (by simpa using hd)
       exact ⟨x, by simp [hx], hp⟩)

theorem b2n_false : b2n false = 0 := rfl
theorem b2n_true : b2n true = 1 := rfl

theorem countP_snoc (p : Action → Bool) (l : List Action) (a : Action) :
    countP p (l ++ [a]) = countP p l + b2n (p a) := by
  unfold countP b2n
  rw [List.filter_append, List.length_append]
  cases h : p a <;> simp [List.filter, h]

theorem step_output_count (d0 : Bool) {a b : R} (h : Step P a b)
    (ha : (d0 = true → a.1.outputDone = true) ∧
      countP Action.isOutput a.2 + b2n d0 = b2n a.1.outputDone) :
    (d0 = true → b.1.outputDone = true) ∧
      countP Action.isOutput b.2 + b2n d0 = b2n b.1.outputDone := by
  cases h <;> simp only [emit, die, sendErr, doCancel] <;> repeat' split
  all_goals try exact ha
  all_goals simp only [countP_snoc, Action.isOutput]
  all_goals try exact ha
  -- the first output
  rename_i hd
  cases d0 <;> simp_all [b2n]

theorem step_errs {a b : R} (h : Step P a b) (ha : a.1.errs ≤ P.errCap) : b.1.errs ≤ P.errCap := by
  cases h <;> simp only [emit, die, sendErr, doCancel] <;> repeat' split
  all_goals first | exact ha | exact Nat.zero_le _ | (simp only; omega)

theorem isNoMoreOutputs_errorSent {k : ErrKind} (hk : k ≠ .noMoreOutputs) :
    Action.isNoMoreOutputs (.errorSent k) = false := by
  cases k <;> first | rfl | exact absurd rfl hk

theorem isNoMoreOutputs_errorDropped {k : ErrKind} (hk : k ≠ .noMoreOutputs) :
    Action.isNoMoreOutputs (.errorDropped k) = false := by
  cases k <;> first | rfl | exact absurd rfl hk

/-- `w0`: the waiting set at the start of the reaction -/
def NmoInv (w0 : List String) (r : R) : Prop :=
  (∀ x ∈ r.1.waitingOutputs, x ∈ w0) ∧
  (countP Action.isNoMoreOutputs r.2 = 0 ∨
    (countP Action.isNoMoreOutputs r.2 = 1 ∧ w0 ≠ [] ∧ r.1.waitingOutputs = []))

theorem step_nmo (w0 : List String) {a b : R} (h : Step P a b) (ha : NmoInv w0 a) : NmoInv w0 b := by
  unfold NmoInv at *
  cases h
  case sendErr k hk =>
    simp only [sendErr]
    repeat' split
    all_goals try simp only [countP_snoc, isNoMoreOutputs_errorSent hk, isNoMoreOutputs_errorDropped hk,
      b2n_false, Nat.add_zero]
    all_goals exact ha
  case dropWaiting id =>
    obtain ⟨h1, h2⟩ := ha
    refine ⟨fun x hx => h1 x (List.mem_filter.1 hx).1, ?_⟩
    rcases h2 with h2 | ⟨h2, h3, h4⟩
    · exact .inl h2
    · exact .inr ⟨h2, h3, by simp [h4]⟩
  case noMoreOut id hc he =>
    obtain ⟨h1, h2⟩ := ha
    have hmem : id ∈ a.1.waitingOutputs := by simpa using hc
    have hw0 : w0 ≠ [] := List.ne_nil_of_mem (h1 id hmem)
    have hne : a.1.waitingOutputs ≠ [] := List.ne_nil_of_mem hmem
    have hcount : countP Action.isNoMoreOutputs a.2 = 0 := by
      rcases h2 with h2 | ⟨_, _, h4⟩
      · exact h2
      · exact absurd h4 hne
    have hempty : a.1.waitingOutputs.filter (· ≠ id) = [] := by simpa using he
    simp only [sendErr]
    repeat' split
    all_goals simp only [countP_snoc, Action.isNoMoreOutputs, b2n_true, hcount, hempty]
    all_goals simp [hw0]
  all_goals try simp only [emit, die, doCancel]
  all_goals repeat' split
  all_goals try simp only [countP_snoc, Action.isNoMoreOutputs, b2n_false, Nat.add_zero]
  all_goals exact ha

/-- `res0`: the result slot at the start of the reaction -/
def ResInv (res0 : Option (String × Val)) (r : R) : Prop :=
  r.1.outputDone = r.1.result.isSome ∧
  (∀ id v, Action.output id v ∈ r.2 → r.1.result = some (id, v)) ∧
  (res0.isSome = true → r.1.result = res0) ∧
  (r.1.outputDone = false → ∀ id v, Action.output id v ∉ r.2) ∧
  (res0 = none → ∀ id v, r.1.result = some (id, v) → Action.output id v ∈ r.2)

theorem step_res (res0 : Option (String × Val)) {a b : R} (h : Step P a b) (ha : ResInv res0 a) :
    ResInv res0 b := by
  unfold ResInv at *
  cases h
  case output o v hd =>
    obtain ⟨h1, h2, h3, h4, _⟩ := ha
    have hnone : a.1.result = none := by
      have hs : a.1.result.isSome = false := by rw [← h1, hd]
      cases hr : a.1.result with
      | none => rfl
      | some x => rw [hr] at hs; cases hs
    refine ⟨rfl, ?_, ?_, (fun hf => nomatch hf), ?_⟩
    · intro id w hm
      simp only [List.mem_append, List.mem_singleton] at hm
      rcases hm with hm | hm
      · exact absurd hm (h4 hd id w)
      · cases hm; rfl
    · intro hs
      have := h3 hs
      rw [hnone] at this
      rw [← this] at hs
      cases hs
    · intro _ id w hr
      cases hr
      exact List.mem_append_right _ (List.mem_singleton_self _)
  all_goals try simp only [emit, die, sendErr, doCancel]
  all_goals repeat' split
  all_goals try simp only [List.mem_append, List.mem_singleton, reduceCtorEq, or_false]
  all_goals exact ha

end Steps

section Reach
variable {P : Prepared} {s : LoopState} {r : R}

/-- holds by construction: no step emits `stuck`, the send of `sendErr` drops the error when the buffer is full -/
theorem reach_no_stuck (h : Reach P (s, []) r) : ∀ a ∈ r.2, a.isStuck = false :=
  h.preserves (Q := fun r => ∀ a ∈ r.2, a.isStuck = false) (fun _ _ => step_no_stuck) (fun _ h => nomatch h)

theorem reach_dead_only_by_panic {a : R} (h : Reach P a r) (hs : a.1.dead = false) (hd : r.1.dead = true) :
    ∃ a ∈ r.2, a.isPanic = true :=
  h.preserves (Q := fun r => r.1.dead = true → ∃ a ∈ r.2, a.isPanic = true) (fun _ _ => step_dead_panic)
    (fun h => by rw [hs] at h; cases h) hd

theorem reach_output_count (h : Reach P (s, []) r) :
    (s.outputDone = true → r.1.outputDone = true) ∧
    countP Action.isOutput r.2 + b2n s.outputDone = b2n r.1.outputDone :=
  h.preserves (Q := fun r => (s.outputDone = true → r.1.outputDone = true) ∧
      countP Action.isOutput r.2 + b2n s.outputDone = b2n r.1.outputDone)
    (fun _ _ => step_output_count s.outputDone) ⟨id, Nat.zero_add _⟩

theorem reach_errs_le_cap (h : Reach P (s, []) r) (hs : s.errs ≤ P.errCap) : r.1.errs ≤ P.errCap :=
  h.preserves (Q := fun r => r.1.errs ≤ P.errCap) (fun _ _ => step_errs) hs

theorem reach_noMoreOutputs (h : Reach P (s, []) r) :
    (∀ x ∈ r.1.waitingOutputs, x ∈ s.waitingOutputs) ∧
    countP Action.isNoMoreOutputs r.2 ≤ 1 ∧
    (countP Action.isNoMoreOutputs r.2 = 1 → s.waitingOutputs ≠ [] ∧ r.1.waitingOutputs = []) := by
  obtain ⟨h1, h2⟩ : NmoInv s.waitingOutputs r :=
    h.preserves (fun _ _ => step_nmo s.waitingOutputs) ⟨fun _ h => h, .inl rfl⟩
  refine ⟨h1, ?_, ?_⟩
  · rcases h2 with h2 | ⟨h2, _⟩ <;> omega
  · intro hc
    rcases h2 with h2 | ⟨_, h3, h4⟩
    · omega
    · exact ⟨h3, h4⟩

theorem reach_result (h : Reach P (s, []) r) (hinv : s.outputDone = s.result.isSome) :
    r.1.outputDone = r.1.result.isSome ∧
    (∀ id v, Action.output id v ∈ r.2 → r.1.result = some (id, v)) ∧
    (s.result.isSome = true → r.1.result = s.result) ∧
    (s.result = none → ∀ id v, r.1.result = some (id, v) → Action.output id v ∈ r.2) := by
  have h : ResInv s.result r :=
    h.preserves (fun _ _ => step_res s.result)
      ⟨hinv, (by intro _ _ h; cases h), fun _ => rfl, (by intro _ _ _ h; cases h), fun h _ _ h' => by
        rw [h] at h'; cases h'⟩
  exact ⟨h.1, h.2.1, h.2.2.1, h.2.2.2.2⟩

theorem reach_acts_prefix {a b : R} (h : Reach P a b) : ∃ l, b.2 = a.2 ++ l :=
  h.preserves (Q := fun r => ∃ l, r.2 = a.2 ++ l)
    (fun _ _ s ⟨l1, h1⟩ => (step_acts_prefix s).elim fun l2 h2 => ⟨l1 ++ l2, by rw [h2, h1, List.append_assoc]⟩)
    ⟨[], (List.append_nil _).symm⟩

theorem reach_dead_mono {a b : R} (h : Reach P a b) (ha : a.1.dead = true) : b.1.dead = true :=
  h.preserves (Q := fun r => r.1.dead = true) (fun _ _ => step_dead_mono) ha

end Reach

theorem react_dead_only_by_panic (P : Prepared) (fns : Fns) (ord : Order) (s : LoopState) (e : Event)
    (hs : s.dead = false) (hd : (react P fns ord s e).1.dead = true) :
    ∃ a ∈ (react P fns ord s e).2, a.isPanic = true :=
  reach_dead_only_by_panic (react_reach fns ord s e) hs hd

theorem run_at_most_one_output (P : Prepared) (fns : Fns) (ord : Order) (h : List Event) :
    countP Action.isOutput (run P fns ord h).2 ≤ 1 := by
  have h1 := (reach_output_count (runFrom_reach (P := P) fns ord h (LoopState.init P))).2
  have h2 : ∀ b, b2n b ≤ 1 := by decide
  have := h2 (runFrom P fns ord (LoopState.init P) h).1.outputDone
  unfold run
  omega

theorem run_noMoreOutputs_once (P : Prepared) (fns : Fns) (ord : Order) (h : List Event) :
    countP Action.isNoMoreOutputs (run P fns ord h).2 ≤ 1 :=
  (reach_noMoreOutputs (runFrom_reach fns ord h _)).2.1

theorem run_result (P : Prepared) (fns : Fns) (ord : Order) (h : List Event) :
    ∀ id v, Action.output id v ∈ (run P fns ord h).2 → (run P fns ord h).1.result = some (id, v) :=
  (reach_result (runFrom_reach fns ord h (LoopState.init P)) rfl).2.1

theorem run_action_of_result (P : Prepared) (fns : Fns) (ord : Order) (h : List Event) (oid : String) (v : Val) :
    (run P fns ord h).1.result = some (oid, v) → Action.output oid v ∈ (run P fns ord h).2 :=
  (reach_result (runFrom_reach fns ord h (LoopState.init P)) rfl).2.2.2 rfl oid v

end Arca.Model
