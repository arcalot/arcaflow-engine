/-
The precondition of an operation (`Pre`) depends only on the SETS of node ids and connected pairs produced before it.
A block of operations therefore runs after another one iff it runs without it, if neither creates a node or connects a
pair that the other does (`Apart A B`) and it refers to no node of the other (`Closed P B`): `allPre_drop`,
`allPre_insert`.  A phase of such blocks runs iff each block runs on its own (`allPre_blocks`), whatever their order
(`phase_perm`), and `Wf.ops` consists of three such phases (`build_reordered`).
-/
import Arca.Model.Prepare
import Arca.Proofs.PreparePerm

namespace Arca.Model
open Arca.Gen (StageRow)

theorem allPre_perm {P P' : List Op} (hP : P.Perm P') {os : List Op} (h : AllPre P os) : AllPre P' os := by
  induction os generalizing P P' with
  | nil => trivial
  | cons op os ih =>
    refine ⟨?_, ih (hP.append_right _) h.2⟩
    have h1 := h.1
    cases op <;> simp only [Pre, ← (ridsOf_perm hP).mem_iff, ← (pairsOf_perm hP).mem_iff] at h1 ⊢ <;> exact h1

def Closed (P A : List Op) : Prop :=
  ∀ a b d t, Op.edge a b d t ∈ A →
    (a.render ∈ ridsOf P ∨ a.render ∈ ridsOf A) ∧ (b.render ∈ ridsOf P ∨ b.render ∈ ridsOf A)

def Apart (A B : List Op) : Prop :=
  (∀ z ∈ ridsOf A, z ∉ ridsOf B) ∧ (∀ p ∈ pairsOf A, p ∉ pairsOf B)

theorem Apart.symm {A B : List Op} (h : Apart A B) : Apart B A :=
  ⟨fun z hz hz' => h.1 z hz' hz, fun p hp hp' => h.2 p hp' hp⟩

theorem mem_rids_mid {P A pre : List Op} {z : String} :
    z ∈ ridsOf (P ++ A ++ pre) ↔ z ∈ ridsOf (P ++ pre) ∨ z ∈ ridsOf A := by
  simp only [ridsOf_append, List.mem_append, or_right_comm]

theorem mem_pairs_mid {P A pre : List Op} {p : String × String} :
    p ∈ pairsOf (P ++ A ++ pre) ↔ p ∈ pairsOf (P ++ pre) ∨ p ∈ pairsOf A := by
  simp only [pairsOf_append, List.mem_append, or_right_comm]

theorem allPre_drop {P A B : List Op} (h : AllPre (P ++ A) B) (hc : Closed P B) (hd : ∀ z ∈ ridsOf A, z ∉ ridsOf B) :
    AllPre P B := by
  refine allPre_of_split fun pre op post e => ?_
  subst e
  have h1 : Pre (P ++ A ++ pre) _ := h.at
  cases op with
  | fail r => exact h1
  | node n => exact fun hn => h1 (mem_rids_mid.2 (Or.inl hn))
  | edge a b d t =>
    have keep : ∀ z, (z ∈ ridsOf P ∨ z ∈ ridsOf (pre ++ Op.edge a b d t :: post)) → z ∈ ridsOf (P ++ A ++ pre) →
        z ∈ ridsOf (P ++ pre) := fun z hz h =>
      (mem_rids_mid.1 h).elim id fun hA => hz.elim
        rid_append_left (fun hB => absurd hB (hd z hA))
    obtain ⟨ha, hb, hab, hs⟩ := h1
    obtain ⟨ca, cb⟩ := hc a b d t (by simp)
    exact ⟨keep _ ca ha, keep _ cb hb, hab, fun ht hp => hs ht (mem_pairs_mid.2 (Or.inl hp))⟩

theorem allPre_insert {P A B : List Op} (h : AllPre P A) (hd : Apart A B) : AllPre (P ++ B) A := by
  refine allPre_of_split fun pre op post e => ?_
  subst e
  have h1 : Pre (P ++ pre) _ := h.at
  cases op with
  | fail r => exact h1
  | node n =>
    exact fun hn => (mem_rids_mid.1 hn).elim h1 (hd.1 _ (node_rid (by simp)))
  | edge a b d t =>
    obtain ⟨ha, hb, hab, hs⟩ := h1
    exact ⟨mem_rids_mid.2 (Or.inl ha), mem_rids_mid.2 (Or.inl hb), hab, fun ht hp =>
      (mem_pairs_mid.1 hp).elim (hs ht) (hd.2 _ (mem_pairsOf.2 ⟨a, b, d, t, by simp, rfl⟩))⟩

theorem Closed.mono {P P' A : List Op} (hc : Closed P A) (h : ∀ z ∈ ridsOf P, z ∈ ridsOf P') : Closed P' A :=
  fun a b d t hop => (hc a b d t hop).imp (Or.imp_left (h _)) (Or.imp_left (h _))

theorem allPre_blocks {α : Type} {f : α → List Op} {l : List α} {P : List Op} (hc : ∀ x ∈ l, Closed P (f x))
    (hd : l.Pairwise fun x y => Apart (f x) (f y)) : AllPre P (l.flatMap f) ↔ ∀ x ∈ l, AllPre P (f x) := by
  induction l generalizing P with
  | nil => simp [AllPre]
  | cons x l ih =>
    obtain ⟨hx, hd⟩ := List.pairwise_cons.1 hd
    rw [List.flatMap_cons, allPre_append, List.forall_mem_cons,
      ih (fun y hy => (hc y (.tail _ hy)).mono fun _ => rid_append_left) hd]
    -- a later block runs after `f x` iff it runs without it
    exact and_congr_right fun _ => forall₂_congr fun y hy =>
      ⟨fun h => allPre_drop h (hc y (.tail _ hy)) (hx y hy).1, fun h => allPre_insert h (hx y hy).symm⟩

theorem phase_perm {α : Type} {f : α → List Op} {l l' : List α} (hperm : l.Perm l') {P P' : List Op}
    (hP : P.Perm P') (hc : ∀ x ∈ l, Closed P (f x)) (hd : l.Pairwise fun x y => Apart (f x) (f y))
    (hrun : AllPre P (l.flatMap f)) : AllPre P' (l'.flatMap f) :=
  allPre_perm hP <| (allPre_blocks (fun x hx => hc x (hperm.mem_iff.2 hx)) (hd.perm hperm Apart.symm)).2 fun x hx =>
    (allPre_blocks hc hd).1 hrun x (hperm.mem_iff.2 hx)

/-- Blocks are apart if each keeps its nodes, and the targets of its edges, within a territory of its own. -/
theorem pairwise_apart {α : Type} {f T : α → List Op} {l : List α} (hnd : (ridsOf (l.flatMap T)).Nodup)
    (hsub : ∀ x ∈ l, ∀ z ∈ ridsOf (f x), z ∈ ridsOf (T x))
    (htgt : ∀ x ∈ l, ∀ a b d t, Op.edge a b d t ∈ f x → b.render ∈ ridsOf (T x)) :
    l.Pairwise fun x y => Apart (f x) (f y) := by
  rw [ridsOf_flatMap] at hnd
  refine (List.pairwise_flatMap.1 hnd).2.imp_of_mem fun {x y} hx hy h => ⟨fun z hz hz' => ?_, fun p hp hp' => ?_⟩
  · exact h z (hsub x hx z hz) z (hsub y hy z hz') rfl
  · obtain ⟨a, b, d, t, hop, rfl⟩ := mem_pairsOf.1 hp
    obtain ⟨a', b', d', t', hop', e⟩ := mem_pairsOf.1 hp'
    exact h _ (htgt x hx a b d t hop) _ (htgt y hy a' b' d' t' hop') (congrArg Prod.snd e)

theorem build_reordered {po : List String} {wf wf' : Wf} (h : wf.Reordered wf') {g : Graph String}
    (hb : build po wf = .ok g) : ∃ g', build po wf' = .ok g' := by
  have hB := build_built hb
  have hu : wf.UniqueIds := steps_id_inj hB
  have hperm := ops_perm (po := po) h hu
  have hnd := hB.nodup
  have hall := hB.pre
  refine runOps_ok_iff.2 ?_
  rw [ops_shape hB.nofail] at hall hnd
  rw [ops_shape fun r hr => hB.nofail r (hperm.mem_iff.2 hr), ← resolve_reordered h hu]
  simp only [Wf.nodePhase, allPre_append, List.nil_append] at hall ⊢
  obtain ⟨⟨⟨hall0, hall1⟩, hall2⟩, hall3⟩ := hall
  simp only [Wf.nodePhase, ridsOf_append, List.nodup_append] at hnd
  have hN := h.steps.flatMap_right (stepNodeOps po)
  have hE := h.steps.flatMap_right (stepEdgeOps (wf.resolve po))
  refine ⟨⟨⟨hall0, ?_⟩, ?_⟩, ?_⟩
  · refine phase_perm h.steps (.refl _) (fun s _ a b d t hop => ?_) (pairwise_apart hnd.1.1.2.1 (fun _ _ _ hz => hz)
      fun s _ a b d t hop => node_rid (stepNodeOps_closed hop).2.1) hall1
    exact ⟨Or.inr (node_rid (stepNodeOps_closed hop).1), Or.inr (node_rid (stepNodeOps_closed hop).2.1)⟩
  · -- the edge blocks of the steps: a step keeps the targets of its edges within its two blocks
    refine phase_perm h.steps ((List.Perm.refl _).append hN) (fun s hs a b d t hop => ?_) ?_ hall2
    · obtain ⟨ha, hb', _⟩ := stepEdgeOps_closed hop hs
      refine ⟨ha.imp node_rid node_rid, ?_⟩
      rcases hb' with ⟨row, hrow, rfl, _⟩ | ⟨_, hn⟩
      · exact Or.inl (node_rid (List.mem_append_right _ (List.mem_flatMap.2 ⟨s, hs, stage_mem_stepNodeOps hrow⟩)))
      · exact Or.inr (node_rid hn)
    · refine pairwise_apart (T := fun s => stepNodeOps po s ++ stepEdgeOps (wf.resolve po) s)
        ((ridsOf_perm List.flatMap_append_perm).nodup_iff.1 ?_)
        (fun _ _ _ hz => by rw [ridsOf_append]; exact List.mem_append_right _ hz) fun s hs a b d t hop => ?_
      · rw [ridsOf_append, List.nodup_append]
        exact ⟨hnd.1.1.2.1, hnd.1.2.1, fun u hu v hv => hnd.1.2.2 u (List.mem_append_right _ hu) v hv⟩
      · rcases (stepEdgeOps_closed hop hs).2.1 with ⟨row, hrow, rfl, _⟩ | ⟨_, hn⟩
        · exact rid_append_left (node_rid (stage_mem_stepNodeOps hrow))
        · rw [ridsOf_append]; exact List.mem_append_right _ (node_rid hn)
  · refine phase_perm h.outputs (((List.Perm.refl _).append hN).append hE) (fun o _ a b d t hop => ?_)
      (pairwise_apart hnd.2.1 (fun _ _ _ hz => hz) fun o _ a b d t hop => ?_) hall3
    · obtain ⟨ha, hb', _⟩ := outputOps_closed hop
      exact ⟨ha.imp (fun h => rid_append_left (node_rid h)) node_rid, Or.inr (node_rid hb')⟩
    · exact node_rid (outputOps_closed hop).2.1

end Arca.Model
