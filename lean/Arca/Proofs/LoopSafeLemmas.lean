/-
The induction behind `react_legal_no_panic` (`LoopSafe.lean`): `notifySteps` never panics from a state whose graph
satisfies `GSafe`, and re-establishes it.  The invariant of the recursion (`Entry`) speaks of the nodes in the to-do list
of `processNodes`, which the steps of `LoopLemmas.lean` do not carry: `processNode_moves` follows `processNode` itself.
-/
import Arca.Proofs.LoopInv
import Arca.Proofs.DgraphFuel
import Arca.Proofs.LoopFinished

namespace Arca.Model

/-- the processing order does not duplicate what `PopReadyNodes` returned -/
def OrdNodup (ord : Order) : Prop := ∀ l, (l.map Prod.fst).Nodup → ((ord l).map Prod.fst).Nodup

/-- an order that permutes its argument (Go's map iteration, any sort) satisfies both order hypotheses -/
theorem ord_of_perm (ord : Order) (h : ∀ l, (ord l).Perm l) : OrdOK ord ∧ OrdNodup ord := by
  refine ⟨fun l x hx => (h l).mem_iff.1 hx, fun l hl => ?_⟩
  exact ((h l).map Prod.fst).nodup_iff.2 hl

theorem ord_of_sublist (ord : Order) (h : ∀ l, (ord l).Sublist l) : OrdOK ord ∧ OrdNodup ord := by
  refine ⟨fun l x hx => (h l).subset hx, fun l hl => ?_⟩
  exact ((h l).map Prod.fst).nodup hl

/-- the graph part of the panic-freedom invariant; `group_soft`: so that resolved dependency-group nodes are never made
ready again -/
structure GSafe (P : Prepared) (g : Graph String) : Prop where
  inv : g.Inv
  edges : g.edges = P.dag.edges
  ids : g.nodes.map (·.id) = P.dag.nodes.map (·.id)
  closed : g.RClosed
  ready_nodup : g.ready.Nodup
  ready_group : ∀ id ∈ g.ready, isGroup P id → ∀ n, g.find? id = some n → n.status ≠ St.resolved
  group_soft : ∀ id n, g.find? id = some n → n.status = St.resolved → isGroup P id → allSoft n.out

/-- the closure condition for one node (what `Graph.RClosed` asks of a resolved node) -/
def ClosedAt (g : Graph String) (x : String) (n : Node String) : Prop :=
  (∀ ed ∈ g.edges, ed.2.1 = x → ed.2.2 = Dep.and → statusIs g ed.1 St.resolved) ∧
  ((∃ ed ∈ g.edges, ed.2.1 = x ∧ ed.2.2 = Dep.or) → ∃ q ∈ n.res, q.2 = Dep.or)

theorem GSafe.resolve {P : Prepared} {g g' : Graph String} {x : String} {st : St} (hg : GSafe P g)
    (hok : g.resolve x st = .ok g')
    (hx : st = St.resolved → ∀ n, g.find? x = some n →
      ClosedAt g x n ∧ (isGroup P x → allSoft n.out ∧ x ∉ g.ready)) : GSafe P g' := by
  obtain ⟨hed, hids⟩ := Graph.resolve_frame g g' x st hok
  obtain ⟨hrn, hkeep⟩ := Graph.resolve_keeps hok
  -- a group node resolved in `g'`: its node in `g` was all-soft, and it was not newly made ready
  have hgrp : ∀ id n', g'.find? id = some n' → n'.status = St.resolved → isGroup P id →
      allSoft n'.out ∧ (id ∈ g'.ready → id ∈ g.ready ∧ (∃ n, g.find? id = some n ∧ n.status = St.resolved)) := by
    intro id n' hn' hs' hgr
    obtain ⟨n, hn⟩ := Graph.find?_of_ids hids.symm hn'
    obtain ⟨n'', hn'', _, hs⟩ := hkeep id n hn
    have := Graph.find?_unique hn' hn''
    subst this
    rcases Graph.resolve_resolved_only hok hn' hs' with ⟨rfl, hst⟩ | ⟨n0, hn0, hs0⟩
    · obtain ⟨_, h2⟩ := hx hst n hn
      obtain ⟨h3, h4⟩ := h2 hgr
      obtain ⟨a, _, c⟩ := hs h3
      exact ⟨a, fun h => absurd (c h) h4⟩
    · rw [hn] at hn0; cases hn0
      obtain ⟨a, _, c⟩ := hs (hg.group_soft id n hn hs0 hgr)
      exact ⟨a, fun h => ⟨c h, n, hn, hs0⟩⟩
  refine ⟨Graph.inv_resolve g g' x st hg.inv hok, hed.trans hg.edges, hids.trans hg.ids, ?_, hrn hg.ready_nodup, ?_, ?_⟩
  · exact Graph.RClosed.resolve hg.inv hg.closed hok (fun hst n hn => (hx hst n hn).1)
  · intro id hid hgr n' hn' hs'
    obtain ⟨_, h2⟩ := hgrp id n' hn' hs' hgr
    obtain ⟨h3, n, hn, hs⟩ := h2 hid
    exact hg.ready_group id h3 hgr n hn hs
  · intro id n' hn' hs' hgr
    exact (hgrp id n' hn' hs' hgr).1

theorem GSafe.popReady {P : Prepared} {g : Graph String} (hg : GSafe P g) : GSafe P g.popReady.2 :=
  ⟨Graph.inv_popReady hg.inv, hg.edges, hg.ids, hg.closed, List.nodup_nil, (fun _ h => nomatch h), hg.group_soft⟩

theorem GSafe.pushStarting {P : Prepared} {g : Graph String} (hg : GSafe P g)
    (hw : ∀ x n, g.find? x = some n → n.status ≠ St.resolved) : GSafe P g.pushStarting :=
  ⟨Graph.inv_pushStarting hg.inv, hg.edges, hg.ids, hg.closed,
    List.foldlRecOn (motive := List.Nodup) _ _ hg.ready_nodup fun _ h _ _ => nodup_insertSet h,
    fun id _ _ n hn => hw id n hn, hg.group_soft⟩

/-- what later operations on other nodes keep of an all-soft node outside the ready set -/
def KeepY (y : String) (g g' : Graph String) : Prop :=
  ∀ n, g.find? y = some n → allSoft n.out → y ∉ g.ready →
    ∃ n', g'.find? y = some n' ∧ n'.status = n.status ∧ allSoft n'.out ∧ y ∉ g'.ready ∧ ∀ q ∈ n.res, q ∈ n'.res

theorem KeepY.refl (y : String) (g : Graph String) : KeepY y g g :=
  fun n hn hs hr => ⟨n, hn, rfl, hs, hr, fun _ h => h⟩

theorem KeepY.trans {y : String} {a b c : Graph String} (h1 : KeepY y a b) (h2 : KeepY y b c) : KeepY y a c := by
  intro n hn hs hr
  obtain ⟨n1, hn1, a1, a2, a3, a4⟩ := h1 n hn hs hr
  obtain ⟨n2, hn2, b1, b2, b3, b4⟩ := h2 n1 hn1 a2 a3
  exact ⟨n2, hn2, b1.trans a1, b2, b3, fun q hq => b4 q (a4 q hq)⟩

theorem KeepY.of_resolve {g g' : Graph String} {x y : String} {st : St} (hok : g.resolve x st = .ok g')
    (hy : y ≠ x) : KeepY y g g' := by
  intro n hn hsoft hnr
  obtain ⟨n', hn', hr, hs⟩ := (Graph.resolve_keeps hok).2 y n hn
  obtain ⟨a, b, c⟩ := hs hsoft
  exact ⟨n', hn', b hy, a, fun h => hnr (c h), hr⟩

theorem KeepY.popReady (y : String) (g : Graph String) : KeepY y g g.popReady.2 :=
  fun n hn hs _ => ⟨n, hn, rfl, hs, (fun h => nomatch h), fun _ h => h⟩

/-- a node popped from the ready set with a status other than `unres`, while it waits to be processed -/
def Entry (P : Prepared) (g : Graph String) (y : String) : Prop :=
  ∃ n, g.find? y = some n ∧ allSoft n.out ∧ y ∉ g.ready ∧ ClosedAt g y n ∧ (isGroup P y → n.status = St.waiting)

theorem Entry.mono {P : Prepared} {g g' : Graph String} {y : String} (he : Entry P g y) (hk : KeepY y g g')
    (hle : GLe g g') : Entry P g' y := by
  obtain ⟨n, hn, hsoft, hnr, ⟨hand, hor⟩, hgw⟩ := he
  obtain ⟨n', hn', hs, hsoft', hnr', hres⟩ := hk n hn hsoft hnr
  refine ⟨n', hn', hsoft', hnr', ⟨?_, ?_⟩, fun h => hs.trans (hgw h)⟩
  · intro ed he h1 h2
    rw [hle.edges] at he
    exact hle.mono _ _ (by decide) (hand ed he h1 h2)
  · intro hex
    rw [hle.edges] at hex
    obtain ⟨q, hq, hq2⟩ := hor hex
    exact ⟨q, hres q hq, hq2⟩

def NoPanic (l : List Action) : Prop := ∀ a ∈ l, a.isPanic = false

theorem NoPanic.snoc {l : List Action} {a : Action} (h : NoPanic l) (ha : a.isPanic = false) : NoPanic (l ++ [a]) :=
  List.forall_mem_append.2 ⟨h, List.forall_mem_singleton.2 ha⟩

theorem reach_alive {P : Prepared} {a b : R} (h : Reach P a b) (ha : a.1.dead = false) (hnp : NoPanic b.2) :
    b.1.dead = false := by
  cases hd : b.1.dead with
  | false => rfl
  | true =>
    obtain ⟨x, hx, hp⟩ := reach_dead_only_by_panic h ha hd
    rw [hnp x hx] at hp; cases hp

structure Good (P : Prepared) (r : R) : Prop where
  safe : GSafe P r.1.dag
  nopanic : NoPanic r.2

/-- one piece of the loop, from `r` to `r'`: keeps `Good`, moves the graph forward, keeps every node outside `ex` -/
structure Moves (P : Prepared) (ex : String → Prop) (r r' : R) : Prop where
  good : Good P r'
  gle : GLe r.1.dag r'.1.dag
  keep : ∀ y, ¬ ex y → KeepY y r.1.dag r'.1.dag

theorem Moves.same {P : Prepared} {ex : String → Prop} {r r' : R} (h : Good P r) (hd : r'.1.dag = r.1.dag)
    (hp : NoPanic r'.2) : Moves P ex r r' := by
  refine ⟨⟨hd ▸ h.safe, hp⟩, ?_, ?_⟩
  · rw [hd]; exact GLe.refl h.safe.inv
  · intro y _; rw [hd]; exact KeepY.refl y _

theorem Moves.refl {P : Prepared} {ex : String → Prop} {r : R} (h : Good P r) : Moves P ex r r :=
  .same h rfl h.nopanic

theorem Moves.trans {P : Prepared} {ex ex1 ex2 : String → Prop} {a b c : R} (h1 : Moves P ex1 a b)
    (h2 : Moves P ex2 b c) (hex : ∀ y, ¬ ex y → ¬ ex1 y ∧ ¬ ex2 y) : Moves P ex a c :=
  ⟨h2.good, h1.gle.trans h2.gle, fun y hy => (h1.keep y (hex y hy).1).trans (h2.keep y (hex y hy).2)⟩

theorem sendErr_nopanic (cap : Nat) {r : R} (k : ErrKind) (h : NoPanic r.2) : NoPanic (sendErr cap r k).2 := by
  unfold sendErr
  split
  · exact h
  split
  · exact h.snoc rfl
  · exact h.snoc rfl

theorem doCancel_nopanic {r : R} (h : NoPanic r.2) : NoPanic (doCancel r).2 := by
  unfold doCancel
  split
  · exact h
  · exact h.snoc rfl

theorem Moves.sendErr_cancel {P : Prepared} {ex : String → Prop} {r : R} (h : Good P r) (k : ErrKind) :
    Moves P ex r (doCancel (sendErr P.errCap r k)) :=
  Moves.same h (by rw [(doCancel_frame _).1, (sendErr_frame _ _ _).1]) (doCancel_nopanic (sendErr_nopanic _ k h.nopanic))

theorem Moves.resolve {P : Prepared} {r : R} {x : String} {st : St} {g : Graph String} (h : Good P r)
    (hok : r.1.dag.resolve x st = .ok g)
    (hx : st = St.resolved → ∀ n, r.1.dag.find? x = some n →
      ClosedAt r.1.dag x n ∧ (isGroup P x → allSoft n.out ∧ x ∉ r.1.dag.ready)) :
    Moves P (· = x) r ({ r.1 with dag := g }, r.2) :=
  ⟨⟨h.safe.resolve hok hx, h.nopanic⟩, GLe.resolve h.safe.inv hok, fun _ hy => KeepY.of_resolve hok hy⟩

/-- additional well-formedness the panic-freedom argument needs (true of every real prepared workflow; checked by the
    driver): the declared stage-output nodes exist, have exactly one dependency — their stage node, `and` — and items
    of stage nodes carry a map as data -/
structure Prepared.WF2 (P : Prepared) : Prop where
  wf : P.WF
  output_nodes : ∀ step stage o, P.declares step stage → o ∈ P.outputsOf step stage →
      (lookup (outputNodeId step stage o) P.items).isSome = true ∧
      (∀ ed ∈ P.dag.edges, ed.2.1 = outputNodeId step stage o → ed.1 = stageNodeId step stage ∧ ed.2.2 = Dep.and)
  stage_data_map : ∀ id it d, lookup id P.items = some it → it.kind = Kind.stage → it.data = some d →
      ∃ kvs, d = InVal.map kvs
  stage_ids_nonempty : ∀ id it, lookup id P.items = some it → it.kind = Kind.stage → it.step ≠ "" ∧ it.stage ≠ ""
  kinds_handled : ∀ id it, lookup id P.items = some it → it.data.isSome = true → it.kind = Kind.stage ∨ it.kind = Kind.output
  /-- the `input` node has no dependencies: `Execute` resolves it unconditionally, so with a dependency the
  closure of resolved nodes is lost at `start` (`SafeCex.react_start_breaks_closed`, `SafeCex.hist_needs_input_no_deps`) -/
  input_no_deps : ∀ ed ∈ P.dag.edges, ed.2.1 ≠ "input"
  /-- the item of the `input` node has kind `input`: were it a dependency group, `notifySteps` would try to
  resolve the already resolved node and panic (`SafeCex.hist_needs_input_kind`) -/
  input_kind : ∀ it, lookup "input" P.items = some it → it.kind = Kind.input
  /-- node ids of stage nodes are unambiguous.  When a step completes the loop marks the stage nodes of all stages the
  step did not go through as unresolvable; with ids such as `steps.a.b.c` (= stage `b.c` of step `a` = stage `c` of step
  `a.b`) that hits a node another step has legally resolved and the graph library refuses:
  `panic markStageNodeUnresolvable` (`SafeCex.hist_needs_stage_unamb`) -/
  stage_unamb : P.StageUnamb

theorem Prepared.WF2.closedAt_input {P : Prepared} (hP : P.WF2) {g : Graph String} (hg : g.edges = P.dag.edges)
    (n : Node String) : ClosedAt g "input" n :=
  ⟨fun ed he h1 _ => absurd h1 (hP.input_no_deps ed (hg ▸ he)),
    fun ⟨ed, he, h1, _⟩ => absurd h1 (hP.input_no_deps ed (hg ▸ he))⟩

def NotifyOK (P : Prepared) (N : R → R) : Prop := ∀ r, Good P r → Moves P (fun _ => False) r (N r)

theorem resolveIn_map_is_map {fns : Fns} {g : Graph String} {data : Val} {kvs : List (String × InVal)} {v : Val}
    (h : resolveIn fns g data (.map kvs) = .ok v) : ∃ r, v = .map r := by
  rw [resolveIn] at h
  split at h
  · cases h; exact ⟨_, rfl⟩
  · cases h

theorem Entry.resolve_cond {P : Prepared} {g : Graph String} {id : String} (he : Entry P g id) :
    ∀ n, g.find? id = some n → ClosedAt g id n ∧ (isGroup P id → allSoft n.out ∧ id ∉ g.ready) := by
  intro n hn
  obtain ⟨n0, hn0, hsoft, hnr, hcl, _⟩ := he
  rw [hn] at hn0; cases hn0
  exact ⟨hcl, fun _ => ⟨hsoft, hnr⟩⟩

theorem processNode_moves {P : Prepared} (hW : P.WF2) (fns : Fns) (notify : R → R) (hN : NotifyOK P notify)
    (r : R) (id : String) (st : St) (hg : Good P r) (hit : (lookup id P.items).isSome = true)
    (hent : st ≠ St.unres → Entry P r.1.dag id) :
    Moves P (· = id) r (processNode P fns notify r id st).1 := by
  unfold processNode
  split
  · exact Moves.refl hg
  split
  · rename_i hnone
    rw [hnone] at hit; cases hit
  rename_i item hitem
  split
  · -- an unresolvable node: only the waiting set and the actions change
    split
    · split
      · exact Moves.refl hg
      · dsimp only
        split
        · exact Moves.same hg (by rw [(doCancel_frame _).1, (sendErr_frame _ _ _).1]) (doCancel_nopanic (sendErr_nopanic _ _ hg.nopanic))
        · exact Moves.same hg rfl hg.nopanic
    · exact Moves.refl hg
  rename_i hst
  have hent := hent hst
  split
  · -- a dependency group: by `Entry` the library resolves it; then `notify`
    split
    · rename_i hk
      have hcond := hent.resolve_cond
      obtain ⟨n, hn, _, _, hcl, hgw⟩ := hent
      have hw := hgw ⟨item, hitem, hk⟩
      obtain ⟨g', hok, _⟩ := Graph.resolve_ok hg.safe.inv hg.safe.closed .resolved hn hw (by decide)
        (fun _ => hcl)
      split
      · rename_i e he
        rw [hok] at he; cases he
      · rename_i g hok'
        have h1 := Moves.resolve hg hok' fun _ => hcond
        exact h1.trans (hN _ h1.good) (fun y hy => ⟨hy, fun h => h⟩)
    · exact Moves.refl hg
  rename_i inData hdata
  split
  · exact Moves.sendErr_cancel hg _
  rename_i v hv
  split
  · -- a stage node: `WF2` excludes the two panics
    rename_i hk
    split
    · exact Moves.refl hg
    split
    · rename_i hbad
      obtain ⟨h1, h2⟩ := hW.stage_ids_nonempty id item hitem hk
      rcases hbad with h | h
      · exact absurd h h1
      · exact absurd h h2
    split
    · exact Moves.same hg rfl (hg.nopanic.snoc rfl)
    · rename_i hnm
      obtain ⟨kvs, rfl⟩ := hW.stage_data_map id item inData hitem hk hdata
      obtain ⟨m, rfl⟩ := resolveIn_map_is_map hv
      exact absurd rfl (hnm m)
  · -- an output node: emit or skip leave the graph alone, then `Entry` lets the node be resolved
    rename_i hk
    dsimp only
    generalize hr1 : (if r.1.outputDone = true then _ else _ : R) = r1
    have hd : r1.1.dag = r.1.dag ∧ NoPanic r1.2 := by subst hr1; split <;> exact ⟨rfl, hg.nopanic.snoc rfl⟩
    have h0 : Moves P (· = id) r r1 := Moves.same hg hd.1 hd.2
    split
    · rename_i g hok
      exact h0.trans (Moves.resolve h0.good hok fun _ => (hd.1 ▸ hent).resolve_cond) (fun y hy => ⟨hy, hy⟩)
    · exact h0
  · -- any other kind with data: excluded by `WF2.kinds_handled`
    rename_i hns hno
    have := hW.kinds_handled id item hitem (by rw [hdata]; rfl)
    rcases this with h | h
    · exact absurd h hns
    · exact absurd h hno

theorem processNodes_moves {P : Prepared} (hW : P.WF2) (fns : Fns) (notify : R → R) (hN : NotifyOK P notify)
    (l : List (String × St)) : ∀ r : R, Good P r → (l.map Prod.fst).Nodup →
      (∀ x ∈ l, (lookup x.1 P.items).isSome = true ∧ (x.2 ≠ St.unres → Entry P r.1.dag x.1)) →
      Moves P (fun y => y ∈ l.map Prod.fst) r (processNodes P fns notify r l) := by
  induction l with
  | nil => intro r hg _ _; exact Moves.refl hg
  | cons x rest ih =>
    intro r hg hnd hl
    obtain ⟨id, st⟩ := x
    simp only [List.map_cons, List.nodup_cons] at hnd
    unfold processNodes
    obtain ⟨hit, hent⟩ := hl (id, st) List.mem_cons_self
    have h1 := processNode_moves hW fns notify hN r id st hg hit hent
    dsimp only
    split
    · exact ⟨h1.good, h1.gle, fun y hy => h1.keep y fun hyi => hy (by simp [hyi])⟩
    · refine h1.trans (ih _ h1.good hnd.2 ?_) ?_
      · intro x hx
        obtain ⟨hit', hent'⟩ := hl x (List.mem_cons_of_mem _ hx)
        refine ⟨hit', fun hs => (hent' hs).mono (h1.keep _ ?_) h1.gle⟩
        intro hxi
        apply hnd.1
        rw [← hxi]
        exact List.mem_map_of_mem hx
      · intro y hy
        simp only [List.map_cons, List.mem_cons, not_or] at hy
        exact ⟨hy.1, hy.2⟩

theorem notifySteps_moves {P : Prepared} (hW : P.WF2) (fns : Fns) (ord : Order) (hord : OrdOK ord)
    (hnd : OrdNodup ord) (f : Nat) : NotifyOK P (notifySteps P fns ord f) := by
  induction f with
  | zero => intro r hg; exact Moves.refl hg
  | succ f ih =>
    intro r hg
    unfold notifySteps
    split
    · exact Moves.refl hg
    dsimp only
    have hg0 : Good P ({ r.1 with dag := r.1.dag.popReady.2 }, r.2) := ⟨hg.safe.popReady, hg.nopanic⟩
    have h0 : Moves P (fun _ => False) r ({ r.1 with dag := r.1.dag.popReady.2 }, r.2) :=
      ⟨hg0, GLe.popReady hg.safe.inv, fun y _ => KeepY.popReady y _⟩
    have hmem : ∀ x ∈ ord r.1.dag.popReady.1, x.1 ∈ r.1.dag.ready ∧ ∃ n, r.1.dag.find? x.1 = some n ∧ n.status = x.2 :=
      fun x hx => Graph.mem_popReady_iff.1 (hord _ x hx)
    have h1 := processNodes_moves hW fns (notifySteps P fns ord f) ih (ord r.1.dag.popReady.1)
      ({ r.1 with dag := r.1.dag.popReady.2 }, r.2) hg0 (hnd _ (popReady_ids_nodup _ hg.safe.ready_nodup)) (by
        intro x hx
        obtain ⟨hr, n, hn, hs⟩ := hmem x hx
        refine ⟨Option.isSome_iff_exists.2 (item_of_node hW.wf.items_nodes hg.safe.ids hn), ?_⟩
        · intro hsu
          have hnu : n.status ≠ St.unres := by rw [hs]; exact hsu
          obtain ⟨hand, _, hor⟩ := Graph.ready_sound r.1.dag hg.safe.inv x.1 n hr hn hnu
          have hsoft : allSoft n.out := by
            obtain ⟨n', hn', hc⟩ := hg.safe.inv.ready_ok x.1 hr
            rw [hn] at hn'; cases hn'
            exact hc.resolve_left hnu
          refine ⟨n, hn, hsoft, (fun h => nomatch h), ⟨?_, ?_⟩, ?_⟩
          · intro ed he h1 h2
            obtain ⟨m, hm⟩ := Graph.has_iff.1 (hg.safe.inv.edge_nodes ed he).1
            exact ⟨m, hm, (hand ed he h1 h2 m hm).1⟩
          · intro hex
            obtain ⟨q, hq, hq2, _⟩ := hor hex
            exact ⟨q, hq, hq2⟩
          · intro hgr
            have := hg.safe.ready_group x.1 hr hgr n hn
            cases hst : n.status with
            | waiting => rfl
            | resolved => exact absurd hst this
            | unres => exact absurd hst hnu)
    refine ⟨h1.good, h0.gle.trans h1.gle, ?_⟩
    -- `h1.keep` excludes the popped nodes; of those `KeepY` asks nothing, its premise `y ∉ ready` being false
    intro y _ n hn hsoft hnr
    refine ((h0.keep y (fun h => h)).trans (h1.keep y ?_)) n hn hsoft hnr
    intro hy
    obtain ⟨x, hx, rfl⟩ := List.mem_map.1 hy
    exact hnr (hmem x hx).1

end Arca.Model
