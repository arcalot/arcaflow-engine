/-
Soundness of the lock-balance checker: what `postB` computes contains, for every syntactic path (`pathsB n`, any
unrolling bound `n`), the way the path ends and the lock state after its lock events (`Covers`).
-/
import Arca.Model.LockBalance

namespace Arca.Proofs.LockBalance
open Arca.Model.LockBalance

theorem run_append (σ : St) (a b : List Ev) : σ.run (a ++ b) = (σ.run a).run b := List.foldl_append

theorem run_nil (σ : St) : σ.run [] = σ := rfl

theorem run_single (σ : St) (e : Ev) : σ.run [e] = σ.step e := rfl

theorem mem_top (o : Out) (s : St) : (o, s) ∈ top :=
  List.mem_flatMap.2 ⟨o, by cases o <;> decide, List.mem_map.2 ⟨s, by obtain ⟨_ | _, _ | _⟩ := s <;> decide, rfl⟩⟩

theorem subset_addNew (S xs : List St) : ∀ s ∈ S, s ∈ addNew S xs := by
  induction xs generalizing S with
  | nil => exact fun _ h => h
  | cons x xs ih =>
    intro s hs
    rw [addNew, List.foldl_cons]
    split
    · exact ih S s hs
    · exact ih _ s (List.mem_append_left _ hs)

theorem mem_heads (f : St → Res) (n : Nat) : ∀ (S : List St) (s : St), s ∈ S → s ∈ heads f n S := by
  induction n with
  | zero => exact fun _ _ h => h
  | succ n ih => exact fun S s hs => ih _ s (subset_addNew S _ s hs)

def Covers (ps : List Path) (f : St → Res) : Prop := ∀ σ, ∀ p ∈ ps, (p.2, σ.run p.1) ∈ f σ

namespace Covers
variable {ps qs : List Path} {f g : St → Res}

theorem single (evs : List Ev) (o : Out) : Covers [(evs, o)] fun σ => [(o, σ.run evs)] :=
  fun _ _ h => List.mem_singleton.1 h ▸ List.mem_singleton.2 rfl

theorem append (h₁ : Covers ps f) (h₂ : Covers qs g) : Covers (ps ++ qs) fun σ => f σ ++ g σ :=
  fun σ p hp => List.mem_append.2 ((List.mem_append.1 hp).imp (h₁ σ p) (h₂ σ p))

theorem mapOut (φ : Out → Out) (h : Covers ps f) :
    Covers (ps.map fun p => (p.1, φ p.2)) fun σ => (f σ).map fun q => (φ q.1, q.2) := fun σ p hp => by
  obtain ⟨q, hq, rfl⟩ := List.mem_map.1 hp
  exact List.mem_map.2 ⟨_, h σ q hq, rfl⟩

theorem seq (h : Covers ps f) (hk : Covers qs g) : Covers (seqP ps qs) fun σ => seqR (f σ) g := fun σ p hp => by
  obtain ⟨q, hq, hp⟩ := List.mem_flatMap.1 hp
  refine List.mem_flatMap.2 ⟨_, h σ q hq, ?_⟩
  dsimp only at hp ⊢
  split at hp
  · next hf =>
    obtain ⟨r, hr, rfl⟩ := List.mem_map.1 hp
    rw [if_pos hf, run_append]
    exact hk _ r hr
  · next hf => rw [if_neg hf, List.mem_singleton.1 hp]; exact List.mem_singleton.2 rfl

theorem dfr (h : Covers ps f) (hd : Covers qs g) : Covers (dfrP ps qs) fun σ => dfrR (f σ) g := fun σ p hp => by
  obtain ⟨q, hq, hp⟩ := List.mem_flatMap.1 hp
  refine List.mem_flatMap.2 ⟨_, h σ q hq, ?_⟩
  dsimp only at hp ⊢
  split at hp
  · next hx =>
    obtain ⟨r, hr, rfl⟩ := List.mem_map.1 hp
    rw [if_pos hx, run_append]
    exact List.mem_map.2 ⟨_, hd _ r hr, rfl⟩
  · next hx => rw [if_neg hx, List.mem_singleton.1 hp]; exact List.mem_singleton.2 rfl

theorem closed_exits (h : Covers ps f) {S : List St} (hc : closed f S = true) :
    ∀ (k : Nat) (σ : St), σ ∈ S → ∀ p ∈ loopP ps k, (p.2, σ.run p.1) ∈ loopExits f S := by
  have stay : ∀ σ ∈ S, (Out.fall, σ) ∈ loopExits f S := fun σ hσ =>
    List.mem_append_left _ (List.mem_map.2 ⟨σ, hσ, rfl⟩)
  intro k
  induction k with
  | zero =>
    intro σ hσ p hp
    rw [loopP, List.mem_singleton] at hp
    exact hp ▸ stay σ hσ
  | succ k ih =>
    intro σ hσ p hp
    simp only [loopP, List.mem_cons, List.mem_flatMap] at hp
    rcases hp with rfl | ⟨⟨qe, qo⟩, hq, hp⟩
    · exact stay σ hσ
    · have hq' := h σ _ hq
      cases qo with
      | fall | cont =>
        -- one more iteration: the state at the loop head is in `S` again
        obtain ⟨r, hr, rfl⟩ := List.mem_map.1 hp
        have hS : σ.run qe ∈ S := by
          have := List.all_eq_true.mp hc (σ.run qe) (List.mem_filterMap.2
            ⟨_, List.mem_flatMap.2 ⟨σ, hσ, hq'⟩, by simp⟩)
          simpa using this
        simpa [run_append] using ih (σ.run qe) hS r hr
      | brk | ret | panic =>
        rw [List.mem_singleton.1 hp]
        exact List.mem_append_right _ (List.mem_filterMap.2 ⟨_, List.mem_flatMap.2 ⟨σ, hσ, hq'⟩, rfl⟩)

theorem loop (h : Covers ps f) (k : Nat) : Covers (loopP ps k) (loopR f) := fun σ p hp => by
  -- the `4` of `loopR` is the number of states (`allSt`); nothing here depends on it, since `closed` is re-checked
  simp only [loopR]
  split
  · next hc => exact h.closed_exits hc k σ (mem_heads f 4 [σ] σ (List.mem_singleton.2 rfl)) p hp
  · exact mem_top _ _

end Covers

mutual
  theorem coversS (n : Nat) : ∀ s, Covers (pathsS n s) (postS s)
    | .acq => .single [.acq] .fall
    | .rel => .single [.rel] .fall
    | .ret => .single [] .ret
    | .panic => .single [] .panic
    | .brk => .single [] .brk
    | .cont => .single [] .cont
    | .fn _ => .single [] .fall
    | .ite t e => (coversB n t).append (coversB n e)
    | .loop b => (coversB n b).loop n
    | .branch arms exh =>
      .append (f := fun σ => if exh then [] else [(.fall, σ)]) (by cases exh; exact .single [] .fall; exact nofun)
        ((coversA n arms).mapOut fun o => if o = .brk then .fall else o)
    | .call b => (coversB n b).mapOut fun o => if o.exits then .fall else o
  theorem coversB (n : Nat) : ∀ b, Covers (pathsB n b) (postB b)
    | .nil => .single [] .fall
    | .cons s rest => (coversS n s).seq (coversB n rest)
    | .dfr d rest => (coversB n rest).dfr (coversB n d)
  theorem coversA (n : Nat) : ∀ a, Covers (pathsA n a) (postA a)
    | .nil => nofun
    | .cons b rest => (coversB n b).append (coversA n rest)
end

theorem okBody_sound (held₀ : Bool) (b : Block) (hok : okBody held₀ b = true) (n : Nat) (p : Path)
    (hp : p ∈ pathsB n b) (hx : p.2 ≠ .panic) : p.2.exits = true ∧ wellBalanced held₀ p.1 := by
  have hm := coversB n b ⟨held₀, false⟩ p hp
  have hall := (List.all_eq_true.mp hok) _ hm
  obtain ⟨evs, o⟩ := p
  cases o with
  | panic => exact absurd rfl hx
  | brk | cont => simp at hall
  | fall | ret =>
    simp only [Bool.and_eq_true, Bool.not_eq_true', beq_iff_eq] at hall
    exact ⟨rfl, hall.1, hall.2⟩

theorem okFunction_sound (held₀ : Bool) (b : Block) (h : okFunction held₀ b = true) :
    (∀ n p, p ∈ pathsB n b → p.2 ≠ .panic → p.2.exits = true ∧ wellBalanced held₀ p.1) ∧
    (∀ l ∈ litsB b, ∀ n p, p ∈ pathsB n l → p.2 ≠ .panic → p.2.exits = true ∧ wellBalanced false p.1) := by
  rw [okFunction, Bool.and_eq_true, List.all_eq_true] at h
  exact ⟨okBody_sound held₀ b h.1, fun l hl => okBody_sound false l (h.2 l hl)⟩

/-- SOUNDNESS of `balanced`: the token list is followed (it parses), and on every path through the function body — and
    through the body of every function literal of it that runs elsewhere — that does not end in a panic, the mutex is
    never locked while this path holds it, never unlocked while it does not, and is free when the path returns -/
theorem balanced_sound (m : String) (toks : List SplitTok) (h : balanced m toks = true) :
    ∃ b, parse m toks = some b ∧
      (∀ n p, p ∈ pathsB n b → p.2 ≠ .panic → p.2.exits = true ∧ wellBalanced false p.1) ∧
      (∀ l ∈ litsB b, ∀ n p, p ∈ pathsB n l → p.2 ≠ .panic → p.2.exits = true ∧ wellBalanced false p.1) := by
  unfold balanced at h
  split at h
  · exact ⟨_, ‹_›, okFunction_sound false _ h⟩
  · cases h

/-- the same for a function entered and left with the mutex held -/
theorem balancedHeld_sound (m : String) (toks : List SplitTok) (h : balancedHeld m toks = true) :
    ∃ b, parse m toks = some b ∧
      (∀ n p, p ∈ pathsB n b → p.2 ≠ .panic → p.2.exits = true ∧ wellBalanced true p.1) := by
  unfold balancedHeld at h
  split at h
  · exact ⟨_, ‹_›, (okFunction_sound true _ h).1⟩
  · cases h

/-- `Lock(); if c { return }; Unlock()` — the shape of the error path that forgets the unlock -/
example : okBody false (.cons .acq (.cons (.ite (.cons .ret .nil) .nil) (.cons .rel .nil))) = false := by decide +kernel
/-- the same with the unlock on the error path -/
example : okBody false (.cons .acq (.cons (.ite (.cons .rel (.cons .ret .nil)) .nil) (.cons .rel .nil))) = true := by decide +kernel
/-- `Lock(); if c { return }; defer Unlock()` — the defer is registered after the early return -/
example : okBody false (.cons .acq (.cons (.ite (.cons .ret .nil) .nil) (.dfr (.cons .rel .nil) .nil))) = false := by decide +kernel
/-- `Lock(); defer Unlock(); if c { return }` -/
example : okBody false (.cons .acq (.dfr (.cons .rel .nil) (.cons (.ite (.cons .ret .nil) .nil) .nil))) = true := by decide +kernel
/-- unlocking twice, locking in a loop without unlocking -/
example : okBody false (.cons .acq (.cons .rel (.cons .rel .nil))) = false := by decide +kernel
example : okBody false (.cons (.loop (.cons .acq .nil)) .nil) = false := by decide +kernel
example : okBody false (.cons (.loop (.cons .acq (.cons (.ite (.cons .rel (.cons .cont .nil)) .nil) (.cons .rel .nil)))) .nil) = true := by decide +kernel

end Arca.Proofs.LockBalance
