/-
What the loop proofs need of the node ids the run loop computes (`stageNodeId`, `outputNodeId`) and of association
lists (`lookup`).
-/
import Arca.Model.RunLoop

namespace Arca.Model

theorem input_ne_outputNodeId (a b c : String) : "input" ≠ outputNodeId a b c := by
  unfold outputNodeId
  intro h
  have := congrArg String.toList h
  simp [String.toList_append] at this

theorem input_ne_stageNodeId (a b : String) : "input" ≠ stageNodeId a b := by
  unfold stageNodeId
  intro h
  have := congrArg String.toList h
  simp [String.toList_append] at this

/-- the id of an output node reads as the id of a stage node too (stage `b.c` of step `a`) -/
theorem outputNodeId_eq_stageNodeId (a b c : String) : outputNodeId a b c = stageNodeId a (b ++ "." ++ c) := by
  simp [outputNodeId, stageNodeId, String.append_assoc]

theorem outputNodeId_inj {a b o o' : String} (h : outputNodeId a b o = outputNodeId a b o') : o = o' := by
  unfold outputNodeId at h
  exact (String.append_right_inj _).1 h

theorem outputNodeId_ne_stageNodeId (a b o : String) : outputNodeId a b o ≠ stageNodeId a b := by
  unfold outputNodeId stageNodeId
  intro h
  have := congrArg String.length h
  simp only [String.length_append] at this
  have h1 : ".".length = 1 := by decide
  omega

theorem lookup_isSome_iff {α : Type} (k : String) (l : List (String × α)) :
    (∃ v, lookup k l = some v) ↔ k ∈ l.map (·.1) := by
  induction l with
  | nil => simp [lookup]
  | cons x rest ih =>
    obtain ⟨k', v⟩ := x
    by_cases h : k = k' <;> simp [lookup, h, ih]

theorem lookup_of_mem_nodup {α : Type} {k : String} {v : α} : ∀ {l : List (String × α)}, (l.map (·.1)).Nodup →
    (k, v) ∈ l → lookup k l = some v
  | [], _, h => by cases h
  | (k', v') :: rest, hnd, h => by
    simp only [List.map_cons, List.nodup_cons] at hnd
    simp only [lookup]
    rcases List.mem_cons.1 h with h | h
    · cases h
      simp
    · split
      · rename_i hk
        exact absurd (List.mem_map.2 ⟨(k, v), h, hk⟩) hnd.1
      · exact lookup_of_mem_nodup hnd.2 h

end Arca.Model
