/-
References followed by key: `checkSubworkflowCycles`, and that for a cache that supplies every referenced file the
discovery is that check (`supplied_discovery_is_cycle_check`).
-/
import Arca.Proofs.EngineApi
import Arca.Proofs.ListLemmas

namespace Arca.Proofs.EngineApi
open Arca.Model.EngineApi

theorem lookup_contents (k : String) (fc : FileCache) :
    lookup k fc.contents = (getFile k fc.files).map (·.content) := by
  unfold FileCache.contents
  generalize fc.files = fs
  induction fs with
  | nil => rfl
  | cons hd tl ih => grind [lookup, getFile]

/-- key `q` is referenced from `wf`: by one of its foreach steps, or by one of a file so referenced that is among the
    contents `look` and converts, … (a key without content is not followed) -/
inductive KeyReach (fromYAML : String → Option Wf) (look : String → Option String) : Wf → String → Prop where
  | direct {wf : Wf} {q : String} : q ∈ wf.refs → KeyReach fromYAML look wf q
  | trans {wf w : Wf} {p q c : String} : p ∈ wf.refs → look p = some c → fromYAML c = some w →
      KeyReach fromYAML look w q → KeyReach fromYAML look wf q

/-- the content of key `q` is a workflow that references key `q` again, directly or through other files -/
def OnCycle (fromYAML : String → Option Wf) (look : String → Option String) (q : String) : Prop :=
  ∃ c w, look q = some c ∧ fromYAML c = some w ∧ KeyReach fromYAML look w q

/-- the errors of following references: a cycle, a file that does not convert, or the fuel of the model -/
def FollowErr (e : Err) : Prop := e = .selfReference ∨ e = .yaml ∨ e = .tooDeep

theorem checkCycles_ok_iff {fromYAML : String → Option Wf} {contents : List (String × String)} {n : Nat} {wf : Wf}
    {parents : List String} : checkCycles fromYAML (n + 1) wf contents parents = .ok () ↔
      ∀ p ∈ wf.refs, ¬ p ∈ parents ∧ ∀ c, lookup p contents = some c →
        ∃ w, fromYAML c = some w ∧ checkCycles fromYAML n w contents (parents ++ [p]) = .ok () := by
  rw [checkCycles, List.foldl_ok_iff _ fun _ _ => rfl]
  refine forall₂_congr fun p _ => ?_
  unfold visitRef
  by_cases hp : p ∈ parents
  · simp [hp]
  · rcases lookup p contents with _ | c
    · simp [hp]
    · cases h : fromYAML c <;> simp [hp, h]

theorem checkCycles_sound {fromYAML : String → Option Wf} {contents : List (String × String)} {fuel : Nat} {wf : Wf}
    {parents : List String} (h : checkCycles fromYAML fuel wf contents parents = .ok ()) {q : String}
    (hq : KeyReach fromYAML (fun k => lookup k contents) wf q) :
    ¬ q ∈ parents ∧ ¬ OnCycle fromYAML (fun k => lookup k contents) q := by
  induction fuel generalizing wf parents q with
  | zero => simp [checkCycles] at h
  | succ n ih =>
    rw [checkCycles_ok_iff] at h
    have key : ∀ p ∈ wf.refs, ∀ c w, lookup p contents = some c → fromYAML c = some w →
        ∀ q, KeyReach fromYAML (fun k => lookup k contents) w q →
          ¬ q ∈ parents ++ [p] ∧ ¬ OnCycle fromYAML (fun k => lookup k contents) q := by
      intro p hp c w hl hw
      obtain ⟨w', hw', hrec⟩ := (h p hp).2 c hl
      cases hw'.symm.trans hw
      exact fun q => ih hrec
    cases hq with
    | direct hmem =>  -- as in `Arca.Model.SubWf.subworkflowCache_inv`
      exact ⟨(h q hmem).1, fun ⟨c, w, hl, hw, hreach⟩ => (key q hmem c w hl hw q hreach).1 (by simp)⟩
    | trans hmem hl hw hreach =>
      obtain ⟨h₁, h₂⟩ := key _ hmem _ _ hl hw q hreach
      exact ⟨fun hm => h₁ (by simp [hm]), h₂⟩

theorem checkCycles_error_kind {fromYAML : String → Option Wf} {contents : List (String × String)} {fuel : Nat} {wf : Wf}
    {parents : List String} {e : Err} (h : checkCycles fromYAML fuel wf contents parents = .error e) : FollowErr e := by
  induction fuel generalizing wf parents with
  | zero =>
    simp only [checkCycles, Except.error.injEq] at h
    exact Or.inr (Or.inr h.symm)
  | succ n ih =>
    simp only [checkCycles] at h
    obtain ⟨p, _, hv⟩ := List.foldl_error_of (fun _ _ => rfl) h
    simp only [visitRef] at hv
    split at hv
    · cases hv
      exact Or.inl rfl
    · split at hv
      · cases hv
      · split at hv
        · cases hv
          exact Or.inr (Or.inl rfl)
        · exact ih hv

/-- the files reachable from `wf` convert, and `rank` decreases along every reference between them: no cycle -/
def Ranked (fromYAML : String → Option Wf) (look : String → Option String) (rank : String → Nat) (wf : Wf) : Prop :=
  ∀ q c, KeyReach fromYAML look wf q → look q = some c →
    ∃ w, fromYAML c = some w ∧ ∀ r ∈ w.refs, rank r < rank q

theorem Ranked.sub {fromYAML : String → Option Wf} {look : String → Option String} {rank : String → Nat} {wf w : Wf}
    {p c : String} (h : Ranked fromYAML look rank wf) (hp : p ∈ wf.refs) (hl : look p = some c)
    (hw : fromYAML c = some w) : Ranked fromYAML look rank w :=
  fun q c' hq hl' => h q c' (.trans hp hl hw hq) hl'

/-- the hypothesis on `parents` is what the ancestors of a file satisfy: each ranks at least as high as the bound `n` of
    the references of `wf` -/
theorem checkCycles_complete (fromYAML : String → Option Wf) (contents : List (String × String)) (rank : String → Nat)
    (fuel : Nat) : ∀ (wf : Wf) (parents : List String) (n : Nat),
      Ranked fromYAML (fun k => lookup k contents) rank wf → (∀ r ∈ wf.refs, rank r < n) → n < fuel →
      (∀ p ∈ parents, n ≤ rank p) → checkCycles fromYAML fuel wf contents parents = .ok () := by
  induction fuel with
  | zero => exact fun _ _ n _ _ h => absurd h (Nat.not_lt_zero n)
  | succ f ih =>
    intro wf parents n hr hn hf hp
    rw [checkCycles_ok_iff]
    intro p hmem
    refine ⟨fun hm => Nat.lt_irrefl _ (Nat.lt_of_lt_of_le (hn p hmem) (hp p hm)), fun c hl => ?_⟩
    obtain ⟨w, hw, hrank⟩ := hr p c (.direct hmem) hl
    refine ⟨w, hw, ih w (parents ++ [p]) (rank p) (hr.sub hmem hl hw) hrank
      (Nat.lt_of_lt_of_le (hn p hmem) (Nat.le_of_lt_succ hf)) fun p' hp' => ?_⟩
    rcases List.mem_append.mp hp' with h | h
    · exact Nat.le_of_lt (Nat.lt_of_lt_of_le (hn p hmem) (hp p' h))
    · cases List.mem_singleton.mp h
      exact Nat.le_refl _

section
variable {P I D : Type}

/-- the caller's cache has an entry for every key referenced from `wf` through the files it supplies -/
def SuppliesAll (fromYAML : String → Option Wf) (files : FileCache) (wf : Wf) : Prop :=
  ∀ q, KeyReach fromYAML (fun k => lookup k files.contents) wf q → ∃ v, getFile q files.files = some v

theorem SuppliesAll.sub {fromYAML : String → Option Wf} {files : FileCache} {wf w : Wf} {p : String} {v : CtxFile}
    (h : SuppliesAll fromYAML files wf) (hp : p ∈ wf.refs) (hg : getFile p files.files = some v)
    (hw : fromYAML v.content = some w) : SuppliesAll fromYAML files w :=
  fun q hq => h q (.trans hp ((lookup_contents p files).trans (congrArg _ hg)) hw hq)

/-- the right-hand side mentions neither the file system nor `filepath.Abs`: nothing is loaded -/
theorem supplied_discovery_is_cycle_check (env : Env P I D) (files : FileCache) (rootDir : String) (fuel : Nat) :
    ∀ (wf : Wf) (parents : List String), SuppliesAll env.fromYAML files wf →
      subworkflowCache env fuel wf rootDir [] parents (some files) =
        match checkCycles env.fromYAML fuel wf files.contents parents with
        | .ok () => .ok none
        | .error e => .error e := by
  induction fuel with
  | zero => intro wf parents _; rfl
  | succ n ih =>
    intro wf parents hsup
    have hrem : remaining (some files) wf.refs = [] := List.filter_eq_nil_iff.2 fun p hp => by
      obtain ⟨v, hv⟩ := hsup p (.direct hp)
      simp [hv]
    have hloop : suppliedLoop env (some files) (fun w c p => subworkflowCache env n w rootDir c p (some files)) parents []
        wf.refs = (checkCycles env.fromYAML (n + 1) wf files.contents parents).map fun _ => [] :=
      List.foldl_rel (r := fun a (b : Except Err Unit) => a = b.map fun _ => []) rfl fun path hmem a b hab => by
        subst hab
        cases b with
        | error e => rfl
        | ok u =>
          obtain ⟨v, hv⟩ := hsup path (.direct hmem)
          simp only [visitSupplied, visitRef, lookup_contents, hv, Option.map, Except.map]
          split
          · rfl
          · cases hw : env.fromYAML v.content with
            | none => rfl
            | some w =>
              simp only [ih w _ (hsup.sub hmem hv hw)]
              cases checkCycles env.fromYAML n w files.contents (parents ++ [path]) <;> rfl
    rw [subworkflowCache, hloop]
    cases checkCycles env.fromYAML (n + 1) wf files.contents parents with
    | error e => rfl
    | ok u => simp only [Except.map, hrem]; rfl

theorem loadCache_unreadable (env : Env P I D) (rootDir : String) (hdisk : ∀ p, env.readFile p = none) :
    ∀ (paths : List String), paths ≠ [] → loadCache env rootDir paths = .error .readError
  | [], h => absurd rfl h
  | [f], _ => by rw [loadCache_cons, hdisk]; rfl
  | f :: g :: r, _ => by rw [loadCache_cons, loadCache_unreadable env rootDir hdisk (g :: r) (List.cons_ne_nil _ _)]

/-- `none`: the exported `SubworkflowCache` -/
theorem subworkflowCache_without_supplied_reads_disk (env : Env P I D) (fuel : Nat) (wf : Wf) (rootDir : String)
    (caches : List (Option FileCache)) (parents : List String) (hrefs : wf.refs ≠ [])
    (hdisk : ∀ p, env.readFile p = none) :
    subworkflowCache env (fuel + 1) wf rootDir caches parents none = .error .readError := by
  simp [subworkflowCache, suppliedLoop, remaining, hrefs, loadCache_unreadable env rootDir hdisk wf.refs hrefs]

end

end Arca.Proofs.EngineApi
