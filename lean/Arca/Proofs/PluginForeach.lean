/-
The inductive invariant of the foreach provider's synchronisation skeleton (`Arca.Model.ForeachStep.syncStep`) and what
follows from it (C12).
-/
import Arca.Model.PluginStep
import Arca.Proofs.ListLemmas

namespace Arca.Proofs.PluginForeach
open Arca.Model.ForeachStep
open Arca.Gen

/-- the condition of `Inv.compl`, unfolded there -/
def beforeCompletion (p : Pc) : Prop :=
  p = .notStarted ∨ p = .waitingEnable ∨ p = .waitingExecute ∨ p = .executing

structure Inv (s : SyncState) : Prop where
  enabled0 : s.enabledAvail = false → s.enabledOcc = 0
  enabled1 : s.enabledOcc ≤ 1
  exec0 : s.execAvail = false → s.execOcc = 0
  exec1 : s.execOcc ≤ 1
  /-- a provider between its `closed` check and its send: nothing is in the channel and the channel is open -/
  pending : s.provPending = true → s.execOcc = 0 ∧ s.execAvail = true ∧ s.execChanClosed = false
  /-- exactly one completion, reported before `run()` ends -/
  compl : s.completions = (if s.pc = .notStarted ∨ s.pc = .waitingEnable ∨ s.pc = .waitingExecute ∨ s.pc = .executing then 0 else 1)
  closedCtx : s.closed = true → s.ctxDone = true
  closing : s.firstCloser = true ∨ 0 < s.closeWaiting ∨ 0 < s.closeReturned ∨ s.execChanClosed = true → s.closed = true
  /-- the wait group counts `run()`, which `Start` registered before creating the goroutine -/
  wg : s.wg = (if s.pc = .done then 0 else 1)
  returned : 0 < s.closeReturned → s.pc = .done
  late : s.lateNotif = false

theorem inv_init : Inv syncInit := by
  constructor <;> simp [syncInit]

theorem Inv.idle {s : SyncState} (hi : Inv s) (hw : s.wg = 0) : s.pc = .done :=
  Decidable.byContradiction fun h => by simp [hi.wg, h] at hw

instance : DecidablePred beforeCompletion := fun p => by unfold beforeCompletion; infer_instance

/-- what `runMove` writes into `lateNotif`: `run()` moves only before `done` -/
theorem Inv.late_runMove {s : SyncState} (hi : Inv s) (hpc : s.pc ≠ .done) :
    (s.lateNotif || decide (0 < s.closeReturned)) = false := by
  simp [hi.late, Nat.eq_zero_of_not_pos fun h => hpc (hi.returned h)]

/-- `p` is always a literal: the `if` then evaluates, and the state is definitionally the successor `syncStep` builds,
    whether or not the move reports the completion -/
theorem inv_goto {s : SyncState} (hi : Inv s) {q : Pc} (hq : s.pc = q) (p : Pc)
    (hqp : beforeCompletion q ∧ (beforeCompletion p ∨ p = .finishing) := by decide) :
    Inv { s with pc := p, completions := s.completions + (if p = .finishing then 1 else 0),
                 lateNotif := s.lateNotif || decide (0 < s.closeReturned) } :=
  have hpc : beforeCompletion s.pc := hq ▸ hqp.1
  have hnd : s.pc ≠ .done := by rcases hpc with h | h | h | h <;> simp [h]
  { hi with
    compl := by rcases hqp.2 with (h | h | h | h) | h <;> simp [h, hi.compl.trans (if_pos hpc)]
    wg := by rcases hqp.2 with (h | h | h | h) | h <;> simpa [hnd, h] using hi.wg
    returned := fun h => absurd (hi.returned h) hnd
    late := hi.late_runMove hnd }

theorem inv_step {s s' : SyncState} {a : Act} (hi : Inv s) (hs : syncStep s a = .next s') : Inv s' := by
  -- each case names the clauses that mention a field the action writes; the others carry over
  cases a <;>
    simp only [syncStep, runMove, ite_eq_iff, reduceCtorEq, and_false, or_false, false_or, Outcome.next.injEq] at hs
  case provideEnabling =>
    obtain ⟨_, _, hav, _, rfl⟩ := hs
    exact { hi with enabled0 := nofun, enabled1 := by simp [hi.enabled0 (eq_false_of_ne_true hav)] }
  case provideExecuteBegin =>
    obtain ⟨_, hcl, _, hav, rfl⟩ := hs
    -- the provider saw `closed` unset: the channel is still open
    have hopen : s.execChanClosed = false := eq_false_of_ne_true fun h => hcl (hi.closing (.inr (.inr (.inr h))))
    exact { hi with exec0 := nofun, pending := fun _ => ⟨hi.exec0 (eq_false_of_ne_true hav), rfl, hopen⟩ }
  case provideExecuteSend =>
    obtain ⟨hp, _, _, rfl⟩ := hs
    obtain ⟨h0, hav, _⟩ := hi.pending (by simpa using hp)
    exact { hi with exec0 := fun h => by simp [hav] at h, exec1 := by simp [h0], pending := nofun }
  case closeCall =>
    obtain ⟨hc, rfl⟩ | ⟨_, rfl⟩ := hs
    · exact { hi with closing := fun _ => hc }
    · exact { hi with closedCtx := fun _ => rfl, closing := fun _ => rfl }
  -- the other actions have one guard `hc` and one successor
  all_goals obtain ⟨hc, rfl⟩ := hs
  case provideOther => exact hi
  case closeReturnFirst =>
    exact { hi with
      pending := fun h => by simp [hc.2.2] at h
      closing := fun _ => hi.closing (.inl hc.1)
      returned := fun _ => hi.idle hc.2.1 }
  case closeReturn =>
    exact { hi with closing := fun _ => hi.closing (.inr (.inl hc.1)), returned := fun _ => hi.idle hc.2 }
  case runBegin => exact inv_goto hi hc .waitingEnable
  case recvEnabled e =>
    have h0 (h : s.enabledAvail = false) : s.enabledOcc - 1 = 0 := by simp [hi.enabled0 h]
    have h1 : s.enabledOcc - 1 ≤ 1 := Nat.le_trans (Nat.sub_le _ _) hi.enabled1
    cases e
    · exact { inv_goto hi hc.1 .finishing with enabled0 := h0, enabled1 := h1 }
    · exact { inv_goto hi hc.1 .waitingExecute with enabled0 := h0, enabled1 := h1 }
  case ctxAtEnable | ctxAtExecute => exact inv_goto hi hc.1 .finishing
  case recvExecute =>
    exact { inv_goto hi hc.1 .executing with
      exec0 := fun h => by simp [hi.exec0 h]
      exec1 := Nat.le_trans (Nat.sub_le _ _) hi.exec1
      pending := fun h => have ⟨h0, h1⟩ := hi.pending h; ⟨by simp [h0], h1⟩ }
  case itemsDone => exact inv_goto hi hc .finishing
  case runExit =>
    exact { hi with
      compl := by simpa [hc] using hi.compl
      wg := by simp [hi.wg, hc]
      returned := fun _ => rfl
      late := hi.late_runMove (by simp [hc]) }

theorem reachable_inv {s : SyncState} (hr : Reachable s) : Inv s := by
  induction hr with
  | init => exact inv_init
  | step a _ hs ih => exact inv_step ih hs

/-- The enabling flag is down, so its channel is empty (`enabled0`); the execute send is made by the provider that holds the
    lock, with nothing in the channel (`pending`); the capacities (regenerated constants) are at least 1. -/
theorem provide_not_blocked {s : SyncState} (hi : Inv s) :
    syncStep s .provideEnabling ≠ .wouldBlock ∧ syncStep s .provideExecuteSend ≠ .wouldBlock ∧
      ∀ v, syncStep s (.provideExecuteBegin v) ≠ .wouldBlock := by
  refine ⟨?_, ?_, fun v => ?_⟩ <;>
    simp only [syncStep, ne_eq, ite_eq_iff, reduceCtorEq, and_false, or_false, false_or, and_true, not_false_eq_true]
  · exact fun ⟨_, _, hav, hocc⟩ => hocc (by rw [hi.enabled0 (eq_false_of_ne_true hav)]; decide)
  · exact fun ⟨hp, _, hocc⟩ => hocc (by rw [(hi.pending (by simpa using hp)).1]; decide)

theorem never_panics {s : SyncState} (hi : Inv s) (a : Act) (site : String) : syncStep s a ≠ .panic site := by
  cases a <;>
    simp only [syncStep, runMove, ne_eq, ite_eq_iff, reduceCtorEq, and_false, or_false, false_or, not_false_eq_true]
  case provideExecuteSend => exact fun ⟨hp, hcl, _⟩ => by simp [(hi.pending (by simpa using hp)).2.2] at hcl

end Arca.Proofs.PluginForeach
