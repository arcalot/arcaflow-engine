/-
C07 (run-loop part): a history of *legal* provider callbacks never makes the run loop panic.  "Legal" is the contract
between the providers and the loop that the lifecycle order and the input gating establish (C12 on the provider side): a
stage is reported finished only when every required dependency of its node is resolved (it was ready), and a stage is
reported impossible only if it (and its outputs) was not reported finished.
-/
import Arca.Proofs.LoopSafeLemmas

namespace Arca.Model

/-- every resolved node has its required dependencies resolved and, if it has `or` dependencies, one of them resolved:
    resolved nodes never sit downstream of a still-waiting hard dependency -/
def ResolvedClosed (g : Graph String) : Prop :=
  ∀ n ∈ g.nodes, n.status = St.resolved →
    (∀ ed ∈ g.edges, ed.2.1 = n.id → ed.2.2 = Dep.and → statusIs g ed.1 St.resolved) ∧
    ((∃ ed ∈ g.edges, ed.2.1 = n.id ∧ ed.2.2 = Dep.or) → ∃ q ∈ n.res, q.2 = Dep.or)

/-- the provider contract for one callback delivered in state `s` -/
def LegalEvent (P : Prepared) (s : LoopState) : Event → Prop
  | .start _ => NoOutputResolved P s ∧ (∀ n ∈ s.dag.nodes, n.status = St.waiting)
  | .stageChange _ none _ _ => True
  | .stageChange step (some prev) out _ =>
      P.declares step prev ∧
      statusIs s.dag (stageNodeId step prev) St.waiting ∧
      (∀ ed ∈ P.dag.edges, ed.2.1 = stageNodeId step prev → ed.2.2 = Dep.and → statusIs s.dag ed.1 St.resolved) ∧
      (∀ ed ∈ P.dag.edges, ed.2.1 = stageNodeId step prev → ed.2.2 ≠ Dep.or) ∧
      (∀ oid v, out = some (oid, v) → oid ∈ P.outputsOf step prev ∧
          ∀ o ∈ P.outputsOf step prev, statusIs s.dag (outputNodeId step prev o) St.waiting)
  | .stepComplete step prev out _ =>
      -- the same contract as for a stage change: OnStepComplete reports the end of the step's last stage
      P.declares step prev ∧
      statusIs s.dag (stageNodeId step prev) St.waiting ∧
      (∀ ed ∈ P.dag.edges, ed.2.1 = stageNodeId step prev → ed.2.2 = Dep.and → statusIs s.dag ed.1 St.resolved) ∧
      (∀ ed ∈ P.dag.edges, ed.2.1 = stageNodeId step prev → ed.2.2 ≠ Dep.or) ∧
      (∀ oid v, out = some (oid, v) → oid ∈ P.outputsOf step prev ∧
          ∀ o ∈ P.outputsOf step prev, statusIs s.dag (outputNodeId step prev o) St.waiting)
  | .stageFail step stage =>
      P.declares step stage ∧
      ¬ statusIs s.dag (stageNodeId step stage) St.resolved ∧
      ∀ o ∈ P.outputsOf step stage, ¬ statusIs s.dag (outputNodeId step stage o) St.resolved
  | .tick _ _ => True
  | .drain => True

/-- the contract of a callback that reports the end of stage `prev` of `step`, over the graph `g`: what `LegalEvent`
    asks of `stageChange` (with a previous stage) and of `stepComplete` -/
def LegalStageEnd (P : Prepared) (g : Graph String) (step prev : String) (out : Option (String × Val)) : Prop :=
  P.declares step prev ∧
  statusIs g (stageNodeId step prev) St.waiting ∧
  (∀ ed ∈ P.dag.edges, ed.2.1 = stageNodeId step prev → ed.2.2 = Dep.and → statusIs g ed.1 St.resolved) ∧
  (∀ ed ∈ P.dag.edges, ed.2.1 = stageNodeId step prev → ed.2.2 ≠ Dep.or) ∧
  (∀ oid v, out = some (oid, v) → oid ∈ P.outputsOf step prev ∧
      ∀ o ∈ P.outputsOf step prev, statusIs g (outputNodeId step prev o) St.waiting)

theorem LegalEvent.stageEnd {P : Prepared} {s : LoopState} {step prev : String} {out : Option (String × Val)}
    {busy complete : Bool} (h : LegalEvent P s (.stageEnd step prev out busy complete)) :
    LegalStageEnd P s.dag step prev out := by
  cases complete <;> exact h

set_option linter.unusedVariables false in
/-- fuel never runs out: a successful-or-conflicting propagation uses each edge at most once (`Graph.resolve_ne_fuel`).
`h` is not used; it stays because `C07.propagation_fuel_suffices` states the fact of graphs satisfying the invariant. -/
theorem Graph.resolve_no_fuel_error (g : Graph String) (h : g.Inv) (id : String) (st : St) :
    g.resolve id st ≠ .error DgErr.fuel :=
  Graph.resolve_ne_fuel g id st

theorem resolvedClosed_iff (g : Graph String) (hnd : (g.nodes.map (·.id)).Nodup) : ResolvedClosed g ↔ g.RClosed := by
  constructor
  · intro h x n hn hs
    obtain ⟨hnm, hnid⟩ := Graph.find?_some hn
    subst hnid
    exact h n hnm hs
  · intro h n hnm hs
    exact h n.id n (Graph.find?_of_mem hnd hnm) hs

/-- resolving a waiting node whose required dependencies are resolved succeeds and keeps resolved nodes closed -/
theorem Graph.resolve_resolved_ok (g : Graph String) (h : g.Inv) (hc : ResolvedClosed g) (id : String) (n : Node String)
    (hn : g.find? id = some n) (hs : n.status = St.waiting)
    (hand : ∀ ed ∈ g.edges, ed.2.1 = id → ed.2.2 = Dep.and → statusIs g ed.1 St.resolved)
    (hor : (∃ ed ∈ g.edges, ed.2.1 = id ∧ ed.2.2 = Dep.or) → ∃ q ∈ n.res, q.2 = Dep.or) :
    ∃ g', g.resolve id St.resolved = .ok g' ∧ ResolvedClosed g' := by
  obtain ⟨g', hok, hc'⟩ := Graph.resolve_ok h ((resolvedClosed_iff g h.nodup).1 hc) .resolved hn hs (by decide)
    (fun _ => ⟨hand, hor⟩)
  exact ⟨g', hok, (resolvedClosed_iff g' (Graph.inv_resolve g g' id _ h hok).nodup).2 hc'⟩

/--
The part of the panic-freedom invariant of a loop state that `LoopDagInv` does not contain.  `ResolvedClosed`
alone is not inductive and not sufficient (`LoopSafeCex.lean`): the ready set must be duplicate free, a resolved
dependency-group node must not sit in the ready set (the loop would resolve it again: `panic groupResolve`), and — to
keep that true — resolved dependency-group nodes only have soft outstanding entries (so that `dependencyResolved`
never puts them back into the ready set).
-/
structure LoopSafeInv (P : Prepared) (s : LoopState) : Prop where
  closed : ResolvedClosed s.dag
  ready_nodup : s.dag.ready.Nodup
  ready_group : ∀ id ∈ s.dag.ready, isGroup P id → ¬ statusIs s.dag id St.resolved
  group_soft : ∀ n ∈ s.dag.nodes, n.status = St.resolved → isGroup P n.id → ∀ p ∈ n.out, p.2.hard = false
  /-- every resolved stage / stage-output node belongs to a stage recorded in `finishedStages`:
  `markRemainingStagesUnresolvable` marks the nodes of all other stages of a completed step, which the graph library
  refuses for a resolved node (`SafeCex.react_needs_finished_inv`) -/
  finished : FinishedInv P s

theorem GSafe.of_inv {P : Prepared} {s : LoopState} (h : LoopDagInv P s) (hc : LoopSafeInv P s) : GSafe P s.dag := by
  refine ⟨h.inv, h.edges, h.ids, (resolvedClosed_iff _ h.inv.nodup).1 hc.closed, hc.ready_nodup, ?_, ?_⟩
  · intro id hid hgr n hn hs
    exact hc.ready_group id hid hgr ⟨n, hn, hs⟩
  · intro id n hn hs hgr
    obtain ⟨hnm, hnid⟩ := Graph.find?_some hn
    subst hnid
    exact hc.group_soft n hnm hs hgr

theorem GSafe.dagInv {P : Prepared} {s : LoopState} (hg : GSafe P s.dag) : LoopDagInv P s :=
  ⟨hg.inv, hg.edges, hg.ids⟩

theorem GSafe.safeInv {P : Prepared} {s : LoopState} (hg : GSafe P s.dag) (hf : FinishedInv P s) : LoopSafeInv P s := by
  refine ⟨(resolvedClosed_iff _ hg.inv.nodup).2 hg.closed, hg.ready_nodup, ?_, ?_, hf⟩
  · rintro id hid hgr ⟨n, hn, hs⟩
    exact hg.ready_group id hid hgr n hn hs
  · intro n hnm hs hgr
    exact hg.group_soft n.id n (Graph.find?_of_mem hg.inv.nodup hnm) hs hgr

theorem LegalEvent.declared {P : Prepared} {s : LoopState} {e : Event} (h : LegalEvent P s e) : EventDeclared P e := by
  cases e with
  | stageChange step prev out busy =>
    cases prev with
    | none => trivial
    | some p => exact ⟨h.1, fun oid v ho => (h.2.2.2.2 oid v ho).1⟩
  | stepComplete step prev out busy => exact ⟨h.1, fun oid v ho => (h.2.2.2.2 oid v ho).1⟩
  | _ => trivial

section Good
variable {P : Prepared}

theorem checkDeadlock_good (retries : Nat) (busy : Bool) {r : R} (h : Good P r) :
    Good P (checkDeadlock P retries busy r) := by
  unfold checkDeadlock
  split
  · exact h
  split
  · split
    · exact (Moves.sendErr_cancel (ex := fun _ => False) h _).good
    · exact (Moves.same (ex := fun _ => False) (r' := emit r (.spawnDetector _)) h rfl (h.nopanic.snoc rfl)).good
  · exact h

theorem markNode_good {site : PanicSite} {id : String} {r : R} (hg : Good P r)
    (hns : ¬ statusIs r.1.dag id St.resolved) : Good P (markNode site id r) := by
  unfold markNode
  split
  · exact hg
  split
  · exact hg
  rename_i hhas
  obtain ⟨n, hn⟩ := Graph.has_iff.1 (by simpa using hhas)
  split
  · rename_i g hok
    exact (Moves.resolve hg hok (fun h => by cases h)).good
  · rename_i e he
    obtain ⟨g', hok, _⟩ := Graph.resolve_unres_succeeds hg.safe.inv hg.safe.closed hn
      (fun hs => hns ⟨n, hn, hs⟩)
    rw [hok] at he; cases he

theorem markAll_good (l : List (PanicSite × String)) : ∀ r : R, Good P r →
    (∀ p ∈ l, ¬ statusIs r.1.dag p.2 St.resolved) → Good P (markAll l r) := by
  induction l with
  | nil => exact fun _ hg _ => hg
  | cons p rest ih =>
    intro r hg hl
    refine ih _ (markNode_good hg (hl p List.mem_cons_self)) fun q hq hx => hl q (List.mem_cons_of_mem _ hq) ?_
    exact (markNode_quiet p.1 p.2 hg.safe.inv).nonew _ hx

theorem markOutputsUnres_good (step stage : String) (skip : Option String) (r : R) (hg : Good P r)
    (hl : ∀ o ∈ P.outputsOf step stage, skip ≠ some o →
      ¬ statusIs r.1.dag (outputNodeId step stage o) St.resolved) :
    Good P (markOutputsUnres P step stage skip r) := by
  rw [markOutputsUnres_all]
  refine markAll_good _ r hg fun p hp => ?_
  obtain ⟨o, ⟨ho, hs⟩, rfl⟩ := mem_outputMarks.1 hp
  exact hl o ho hs

theorem markRemaining_good (step : String) (r : R) (hg : Good P r) (hf : FinishedInv P r.1) :
    Good P (markRemaining P step r) := by
  rw [markRemaining_all]
  refine markAll_good _ r hg fun p hp => ?_
  obtain ⟨stage, ⟨hd, hnf⟩, hp⟩ := mem_remainingMarks.1 hp
  obtain ⟨h1, h2⟩ := hf step stage hd hnf
  rcases hp with hp | rfl
  · obtain ⟨o, ⟨ho, _⟩, rfl⟩ := mem_outputMarks.1 hp
    exact h2 o ho
  · exact h1

theorem finishStage_good (hP : P.WF2) (fns : Fns) (ord : Order) (hord : OrdOK ord) (hnd : OrdNodup ord)
    (step : String) (complete : Bool) (r : R) (hg : Good P r) (hf : FinishedInv P r.1) :
    Good P (finishStage P fns ord step complete r) := by
  have hN := notifySteps_moves hP fns ord hord hnd (notifyFuel P)
  unfold finishStage
  split
  · exact (hN _ (markRemaining_good step r hg hf)).good
  · exact (hN _ hg).good

/-- a waiting node whose closure condition holds, and which the loop does not resolve itself, is resolved by the library -/
theorem GSafe.resolve_waiting {g : Graph String} (hg : GSafe P g) {x : String} {n : Node String}
    (hn : g.find? x = some n) (hw : n.status = St.waiting) (hcl : ClosedAt g x n) (hx : ¬ isProc P x) :
    ∃ g', g.resolve x .resolved = .ok g' ∧ GSafe P g' := by
  obtain ⟨g', hok, _⟩ := Graph.resolve_ok hg.inv hg.closed .resolved hn hw (by decide) fun _ => hcl
  exact ⟨g', hok, hg.resolve hok fun _ m hm => ⟨Graph.find?_unique hn hm ▸ hcl, fun h => absurd (.inl h) hx⟩⟩

/-- a legal stage end goes through `onStageComplete` without an error: of the ways of `StageEnd` only `noOutput` and
`output` remain -/
theorem StageEnd.legal (hP : P.WF2) {fns : Fns} {ord : Order} {step prev : String} {complete : Bool}
    {out : Option (String × Val)} {r r' : R} (h : StageEnd P fns ord step prev complete r out r') (hg : Good P r)
    (hd : r.1.dead = false) (hl : LegalStageEnd P r.1.dag step prev out) :
    (∃ g, out = none ∧ r.1.dag.resolve (stageNodeId step prev) .resolved = .ok g ∧
        Good P (stageDone step prev g r) ∧ r' = finishStage P fns ord step complete (stageDone step prev g r)) ∨
    (∃ oid v g g2, out = some (oid, v) ∧ r.1.dag.resolve (stageNodeId step prev) .resolved = .ok g ∧
        g.resolve (outputNodeId step prev oid) .resolved = .ok g2 ∧
        Good P (markOutputsUnres P step prev (some oid) (stageDone step prev g2 r)) ∧
        (markOutputsUnres P step prev (some oid) (stageDone step prev g2 r)).1.dead = false ∧
        r' = finishStage P fns ord step complete
          (withStageData step prev oid v (markOutputsUnres P step prev (some oid) (stageDone step prev g2 r)))) := by
  obtain ⟨hdecl, ⟨n, hn, hnw⟩, hand, hnor, hout⟩ := hl
  -- the stage node is waiting with its required dependencies resolved: the library resolves it
  obtain ⟨g, hok, hs1⟩ := hg.safe.resolve_waiting hn hnw
    ⟨hg.safe.edges ▸ hand, fun ⟨ed, he, h1, h2⟩ => absurd h2 (hnor ed (hg.safe.edges ▸ he) h1)⟩
    (stage_not_proc hP.wf hdecl)
  have hnot : ¬ (r.1.dag.has (stageNodeId step prev) = false ∨
      ∃ e, r.1.dag.resolve (stageNodeId step prev) .resolved = .error e) := by
    rintro (hh | ⟨e, he⟩)
    · rw [Graph.has_iff.2 ⟨n, hn⟩] at hh; cases hh
    · rw [hok] at he; cases he
  cases out with
  | none =>
    cases h with
    | abort hwhy _ => exact absurd hwhy hnot
    | noOutput hok' => cases hok.symm.trans hok'; exact .inl ⟨g, rfl, hok, ⟨hs1, hg.nopanic⟩, rfl⟩
  | some ov =>
  obtain ⟨oid, v⟩ := ov
  obtain ⟨hoid, hallw⟩ := hout oid v rfl
  -- the node of the reported output still waits, and its only dependency, the stage node, is resolved: it is resolved too
  obtain ⟨n0, hn0, hn0w⟩ := hallw oid hoid
  obtain ⟨n1, hn1, hn1s⟩ := Graph.resolve_resolved_status hok hn0 (outputNodeId_ne_stageNodeId _ _ _)
  obtain ⟨_, honly⟩ := hP.output_nodes step prev oid hdecl hoid
  obtain ⟨g2, hok2, hs2⟩ := hs1.resolve_waiting hn1 (hn1s.trans hn0w)
    ⟨fun ed he h1 _ => (honly ed (hs1.edges ▸ he) h1).1 ▸ Graph.resolve_status_self (by decide) hok,
      fun ⟨ed, he, h1, h2⟩ => nomatch (honly ed (hs1.edges ▸ he) h1).2.symm.trans h2⟩
    (stageOutput_not_proc hP.wf hdecl hoid)
  -- and marking the alternative outputs, which still wait, is not refused
  have hg3 : Good P (markOutputsUnres P step prev (some oid) (stageDone step prev g2 r)) := by
    refine markOutputsUnres_good step prev (some oid) _ ⟨hs2, hg.nopanic⟩ fun o ho hne hx => ?_
    rcases resolve_newRes hok2 hx with ⟨heq, _⟩ | h1
    · exact hne (by rw [outputNodeId_inj heq])
    · rcases resolve_newRes hok h1 with ⟨heq, _⟩ | h0
      · exact outputNodeId_ne_stageNodeId _ _ _ heq
      · cases statusIs_unique h0 (hallw o ho)
  cases h with
  | abort hwhy _ => exact absurd hwhy hnot
  | abortOutput hok' hwhy _ =>
    cases hok.symm.trans hok'
    rcases hwhy with hh | ⟨e, he⟩
    · rw [Graph.has_iff.2 ⟨n1, hn1⟩] at hh; cases hh
    · rw [hok2] at he; cases he
  | markDied hok' hok2' hdd =>
    cases hok.symm.trans hok'
    cases hok2.symm.trans hok2'
    rw [reach_alive ((markOutputsUnres_pre (P := P) step prev (some oid) (stageDone step prev g2 r)).reach
      fun _ _ => StepPre.step) hd hg3.nopanic] at hdd
    cases hdd
  | output hok' hok2' hal =>
    cases hok.symm.trans hok'
    cases hok2.symm.trans hok2'
    exact .inr ⟨_, _, _, _, rfl, hok, hok2, hg3, hal, rfl⟩

theorem onStageCompleteBody_good (hP : P.WF2) (fns : Fns) (ord : Order) (hord : OrdOK ord) (hnd : OrdNodup ord)
    (step prev : String) (out : Option (String × Val)) (complete : Bool) (r : R) (hg : Good P r)
    (hf : FinishedInv P r.1) (hd : r.1.dead = false) (hl : LegalStageEnd P r.1.dag step prev out) :
    Good P (onStageCompleteBody P fns ord step prev out complete r) := by
  rcases (stageEnd_of_eq rfl).legal hP hg hd hl with
    ⟨g, _, hok, hg1, hr⟩ | ⟨oid, v, g, g2, ho, hok, hok2, hg3, _, hr⟩ <;> rw [hr]
  · exact finishStage_good hP fns ord hord hnd step complete _ hg1
      (FinOK.resolve_stage hP.wf hP.stage_unamb hg.safe.ids hf hl.1 hok)
  · exact finishStage_good hP fns ord hord hnd step complete (withStageData step prev oid v _) ⟨hg3.safe, hg3.nopanic⟩
      (FinishedInv.afterOutput hP.wf hP.stage_unamb hg.safe.inv hg.safe.ids hf hl.1 (hl.2.2.2.2 oid v ho).1 hok hok2)

theorem react_good (hP : P.WF2) (fns : Fns) (ord : Order) (hord : OrdOK ord) (hnd : OrdNodup ord)
    (s : LoopState) (e : Event) (hg : GSafe P s.dag) (hf : FinishedInv P s) (hl : LegalEvent P s e) :
    Good P (react P fns ord s e) := by
  have hN := notifySteps_moves hP fns ord hord hnd (notifyFuel P)
  have hg0 : Good P (s, []) := ⟨hg, fun _ h => nomatch h⟩
  cases hdead : s.dead with
  | true => rw [react_dead P fns ord s e hdead]; exact hg0
  | false =>
  cases e with
  | start input =>
    obtain ⟨_, hallw⟩ := hl
    have hgp : GSafe P s.dag.pushStarting := by
      apply hg.pushStarting
      intro x n hn hs
      rw [hallw n (Graph.find?_some hn).1] at hs
      cases hs
    rcases react_start (P := P) (fns := fns) (ord := ord) hdead input with hr | ⟨g, hok, hr⟩ <;> rw [hr]
    · exact ⟨hgp, fun _ h => nomatch h⟩
    · -- `input` has no dependencies and is no dependency group
      refine (hN ({ s with data := initData P input, dag := g }, []) ⟨hgp.resolve hok ?_, fun _ h => nomatch h⟩).good
      refine fun _ n _ => ⟨hP.closedAt_input hgp.edges n, fun ⟨it, hit, hk⟩ => ?_⟩
      rw [hP.input_kind it hit] at hk
      cases hk
  | stageChange step prev out busy =>
    cases prev with
    | none => rw [react_stageChange_none]; exact hg0
    | some p =>
      rw [react_stageChange hdead]
      exact checkDeadlock_good 3 busy (onStageCompleteBody_good hP fns ord hord hnd step p out false (s, []) hg0 hf hdead hl)
  | stepComplete step prev out busy =>
    rw [react_stepComplete hdead]
    exact checkDeadlock_good 3 busy (onStageCompleteBody_good hP fns ord hord hnd step prev out true (s, []) hg0 hf hdead hl)
  | stageFail step stage =>
    obtain ⟨_, hns, hno⟩ := hl
    rw [react_stageFail hdead]
    have hq := markOutputsUnres_quiet (P := P) step stage none (s, []) hg.inv
    have hg2 : Good P (markStageUnres step stage (markOutputsUnres P step stage none (s, []))) :=
      markNode_good (markOutputsUnres_good step stage none (s, []) hg0 (fun o ho _ => hno o ho))
        (fun hx => hns (hq.nonew _ hx))
    split
    · exact hg2
    · exact (hN _ hg2).good
  | tick retries busy =>
    rw [react_tick hdead]
    split
    · exact hg0
    · exact checkDeadlock_good _ _ hg0
  | drain => rw [react_drain hdead]; exact ⟨hg, fun _ h => nomatch h⟩

end Good

/-- `hnd : OrdNodup ord` because `OrdOK` allows an order that processes a popped node twice: the second time a
dependency-group node is resolved the library refuses and the loop panics (`SafeCex.hist_needs_OrdNodup`) -/
theorem react_legal_no_panic (P : Prepared) (fns : Fns) (ord : Order) (hord : OrdOK ord) (hnd : OrdNodup ord)
    (hP : P.WF2) (s : LoopState) (e : Event) (h : LoopDagInv P s) (hc : LoopSafeInv P s) (hl : LegalEvent P s e) :
    (∀ a ∈ (react P fns ord s e).2, a.isPanic = false) ∧ LoopSafeInv P (react P fns ord s e).1 := by
  have := react_good hP fns ord hord hnd s e (GSafe.of_inv h hc) hc.finished hl
  exact ⟨this.nopanic,
    this.safe.safeInv (react_finished_inv P fns ord hP.wf hP.stage_unamb s e h hc.finished hl.declared)⟩

/-- the clause `closed` of the second conclusion alone: resolved nodes stay closed -/
theorem react_legal_closed (P : Prepared) (fns : Fns) (ord : Order) (hord : OrdOK ord) (hnd : OrdNodup ord)
    (hP : P.WF2) (s : LoopState) (e : Event) (h : LoopDagInv P s) (hc : LoopSafeInv P s) (hl : LegalEvent P s e) :
    ResolvedClosed (react P fns ord s e).1.dag :=
  (react_legal_no_panic P fns ord hord hnd hP s e h hc hl).2.closed

theorem init_safe_inv (P : Prepared) (hP : P.WF) : LoopSafeInv P (LoopState.init P) := by
  have hw : ∀ n ∈ (LoopState.init P).dag.nodes, n.status = St.waiting := fun n hn => (hP.fresh n hn).1
  refine ⟨?_, ?_, ?_, ?_, init_finished_inv P hP⟩
  · intro n hn hs
    rw [hw n hn] at hs; cases hs
  · show P.dag.clone.ready.Nodup
    exact List.nodup_nil
  · intro id hid
    exact nomatch hid
  · intro n hn hs
    rw [hw n hn] at hs; cases hs

def LegalHistory (P : Prepared) (fns : Fns) (ord : Order) : LoopState → List Event → Prop
  | _, [] => True
  | s, e :: es => LegalEvent P s e ∧ LegalHistory P fns ord (react P fns ord s e).1 es

theorem react_legal_inv (P : Prepared) (fns : Fns) (ord : Order) (hord : OrdOK ord) (hnd : OrdNodup ord)
    (hP : P.WF2) (s : LoopState) (e : Event) (h : LoopDagInv P s ∧ LoopSafeInv P s ∧ s.dead = false)
    (hl : LegalEvent P s e) :
    (LoopDagInv P (react P fns ord s e).1 ∧ LoopSafeInv P (react P fns ord s e).1 ∧
      (react P fns ord s e).1.dead = false) ∧ ∀ a ∈ (react P fns ord s e).2, a.isPanic = false := by
  obtain ⟨hnp, hc'⟩ := react_legal_no_panic P fns ord hord hnd hP s e h.1 h.2.1 hl
  exact ⟨⟨react_dag_inv P fns ord s e h.1, hc', reach_alive (react_reach fns ord s e) h.2.2 hnp⟩, hnp⟩

theorem runFrom_legal_never_panics (P : Prepared) (fns : Fns) (ord : Order) (hord : OrdOK ord) (hnd : OrdNodup ord)
    (hP : P.WF2) (h : List Event) (s : LoopState) (hi : LoopDagInv P s) (hc : LoopSafeInv P s) (hd : s.dead = false)
    (hl : LegalHistory P fns ord s h) :
    (∀ a ∈ (runFrom P fns ord s h).2, a.isPanic = false) ∧ (runFrom P fns ord s h).1.dead = false := by
  obtain ⟨h1, h2⟩ := runFrom_preserves (H := LegalHistory P fns ord) (fun _ _ _ h => h)
    (react_legal_inv P fns ord hord hnd hP) h s ⟨hi, hc, hd⟩ hl
  exact ⟨h2, h1.2.2⟩

/-- C07, run-loop part: no legal history makes the loop panic or die (`hnd`: see `react_legal_no_panic`). -/
theorem legal_history_never_panics (P : Prepared) (fns : Fns) (ord : Order) (hord : OrdOK ord) (hnd : OrdNodup ord)
    (hP : P.WF2) (h : List Event) (hl : LegalHistory P fns ord (LoopState.init P) h) :
    (∀ a ∈ (run P fns ord h).2, a.isPanic = false) ∧ (run P fns ord h).1.dead = false :=
  runFrom_legal_never_panics P fns ord hord hnd hP h _ (init_dag_inv P hP.wf) (init_safe_inv P hP.wf) rfl hl

end Arca.Model
