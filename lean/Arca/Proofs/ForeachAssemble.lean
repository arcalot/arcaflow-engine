/-
The result arrays of a completed foreach pool and the output assembled from them.
-/
import Arca.Proofs.ForeachInv

namespace Arca.Model.ForeachPool

variable {α β : Type}

theorem indexedFrom_eq {γ : Type} (l : List (Option γ)) (k : Nat) :
    indexedFrom k l = (l.zipIdx k).filterMap fun p => p.1.map (p.2, ·) := by
  induction l generalizing k with
  | nil => rfl
  | cons x l ih => cases x <;> simp [indexedFrom, ih]

theorem mem_indexedFrom {γ : Type} (l : List (Option γ)) (k i : Nat) (v : γ) :
    (i, v) ∈ indexedFrom k l ↔ k ≤ i ∧ l[i - k]? = some (some v) := by
  rw [indexedFrom_eq, List.mem_filterMap]
  constructor
  · rintro ⟨⟨o, j⟩, hm, he⟩
    cases o with
    | none => cases he
    | some w => cases he; exact List.mk_mem_zipIdx_iff_le_and_getElem?_sub.mp hm
  · intro h
    exact ⟨(some v, i), List.mk_mem_zipIdx_iff_le_and_getElem?_sub.mpr h, rfl⟩

theorem mem_indexed {γ : Type} (l : List (Option γ)) (i : Nat) (v : γ) :
    (i, v) ∈ indexed l ↔ l[i]? = some (some v) := by
  simp [indexed, mem_indexedFrom]

theorem indexedFrom_sorted {γ : Type} (l : List (Option γ)) (k : Nat) :
    (indexedFrom k l).Pairwise (fun a b => a.1 < b.1) := by
  induction l generalizing k with
  | nil => simp [indexedFrom]
  | cons x l ih =>
    cases x with
    | none => simpa [indexedFrom] using ih (k + 1)
    | some w =>
      simp only [indexedFrom, List.pairwise_cons]
      refine ⟨?_, ih (k + 1)⟩
      intro e he
      have := ((mem_indexedFrom l (k + 1) e.1 e.2).mp he).1
      omega

theorem indexed_sorted {γ : Type} (l : List (Option γ)) : (indexed l).Pairwise (fun a b => a.1 < b.1) :=
  indexedFrom_sorted l 0

theorem outcomes_getElem? (P : Pool α β) (i : Nat) : P.outcomes[i]? = (P.xs[i]?).map (P.exec i) := by
  simp [Pool.outcomes, List.getElem?_mapIdx]

theorem mem_outcomes {P : Pool α β} {o : ItemOutcome β} :
    o ∈ P.outcomes ↔ ∃ i a, P.xs[i]? = some a ∧ P.exec i a = o := by
  simp [List.mem_iff_getElem?, outcomes_getElem?]

theorem outcomes_length (P : Pool α β) : P.outcomes.length = P.n := by
  simp [Pool.outcomes, Pool.n]

theorem any_failMsg (l : List (ItemOutcome β)) :
    (l.map ItemOutcome.failMsg).any Option.isSome = !(l.all ItemOutcome.isOk) := by
  induction l with
  | nil => rfl
  | cons o l ih =>
    cases o <;> simp [ItemOutcome.failMsg, ItemOutcome.isOk, ih]

theorem failMsg_none_iff (o : ItemOutcome β) : o.failMsg = none ↔ o.isOk = true := by
  cases o <;> simp [ItemOutcome.failMsg, ItemOutcome.isOk]

theorem okVal_some_iff (o : ItemOutcome β) (v : β) : o.okVal = some v ↔ o = .ok v := by
  cases o <;> simp [ItemOutcome.okVal]

theorem assembleOf_map (l : List (ItemOutcome β)) :
    assembleOf (l.map ItemOutcome.okVal) (l.map ItemOutcome.failMsg) = expectedOf l := by
  simp only [assembleOf, expectedOf, any_failMsg]
  cases h : l.all ItemOutcome.isOk <;> simp

theorem expectedOf_success {l : List (ItemOutcome β)} {d : List (Option β)} (h : expectedOf l = .success d) :
    l.all ItemOutcome.isOk = true ∧ d = l.map ItemOutcome.okVal := by
  simp only [expectedOf] at h
  split at h
  · rename_i hall
    cases h; exact ⟨hall, rfl⟩
  · cases h

theorem expectedOf_failure {l : List (ItemOutcome β)} {d : List (Nat × β)} {e : List (Nat × String)}
    (h : expectedOf l = .failure d e) :
    l.all ItemOutcome.isOk = false ∧ d = indexed (l.map ItemOutcome.okVal) ∧ e = indexed (l.map ItemOutcome.failMsg) := by
  simp only [expectedOf] at h
  split at h
  · cases h
  · rename_i hall
    cases h; exact ⟨by simpa using hall, rfl, rfl⟩

theorem mem_errors_iff (l : List (ItemOutcome β)) (i : Nat) (m : String) :
    (i, m) ∈ indexed (l.map ItemOutcome.failMsg) ↔ ∃ o, l[i]? = some o ∧ o.failMsg = some m := by
  rw [mem_indexed, List.getElem?_map]
  cases hx : l[i]? <;> simp

theorem mem_data_iff (l : List (ItemOutcome β)) (i : Nat) (v : β) :
    (i, v) ∈ indexed (l.map ItemOutcome.okVal) ↔ l[i]? = some (.ok v) := by
  rw [mem_indexed, List.getElem?_map]
  cases hx : l[i]? <;> simp [okVal_some_iff]

theorem keys_partition (l : List (ItemOutcome β)) (i : Nat) :
    (i < l.length ↔ ((∃ m, (i, m) ∈ indexed (l.map ItemOutcome.failMsg)) ∨
                      (∃ v, (i, v) ∈ indexed (l.map ItemOutcome.okVal)))) ∧
    ¬ ((∃ m, (i, m) ∈ indexed (l.map ItemOutcome.failMsg)) ∧ (∃ v, (i, v) ∈ indexed (l.map ItemOutcome.okVal))) := by
  simp only [mem_errors_iff, mem_data_iff]
  cases hx : l[i]? with
  | none => simp [List.getElem?_eq_none_iff.mp hx]
  | some o => cases o <;> simp [(List.getElem?_eq_some_iff.mp hx).1, ItemOutcome.failMsg]

theorem expectedOf_failure_spec {l : List (ItemOutcome β)} {d : List (Nat × β)} {e : List (Nat × String)}
    (h : expectedOf l = .failure d e) :
    (∀ i m, (i, m) ∈ e ↔ ∃ o, l[i]? = some o ∧ o.failMsg = some m) ∧
    (∀ i v, (i, v) ∈ d ↔ l[i]? = some (.ok v)) ∧
    e.Pairwise (fun x y => x.1 < y.1) ∧ d.Pairwise (fun x y => x.1 < y.1) ∧
    (∀ i, (i < l.length ↔ ((∃ m, (i, m) ∈ e) ∨ (∃ v, (i, v) ∈ d))) ∧
      ¬ ((∃ m, (i, m) ∈ e) ∧ (∃ v, (i, v) ∈ d))) := by
  obtain ⟨_, rfl, rfl⟩ := expectedOf_failure h
  exact ⟨mem_errors_iff l, mem_data_iff l, indexed_sorted _, indexed_sorted _, keys_partition l⟩

theorem effOutcomes_getElem? (P : Pool α β) (s : PoolState α β) (i : Nat) :
    (effOutcomes P s)[i]? =
      (P.xs[i]?).map (fun a => if s.phase[i]? = some .aborted then .err ItemOutcome.abortMsg else P.exec i a) := by
  simp [effOutcomes, List.getElem?_mapIdx]

theorem effOutcomes_length (P : Pool α β) (s : PoolState α β) : (effOutcomes P s).length = P.xs.length := by
  simp [effOutcomes]

theorem allExecuted_phase {s : PoolState α β} (h : allExecuted s = true) {i : Nat} (hi : i < s.phase.length) :
    s.phase[i]? = some .done := by
  simp only [allExecuted, List.all_eq_true] at h
  have := h (s.phase[i]) (List.getElem_mem hi)
  rw [List.getElem?_eq_getElem hi]
  simpa using this

theorem allDone_phase {s : PoolState α β} (h : allDone s = true) {i : Nat} (hi : i < s.phase.length) :
    s.phase[i]? = some .done ∨ s.phase[i]? = some .aborted := by
  simp only [allDone, List.all_eq_true] at h
  have := h (s.phase[i]) (List.getElem_mem hi)
  rw [List.getElem?_eq_getElem hi]
  cases hph : s.phase[i] <;> simp [hph, isFinal] at this ⊢

theorem effOutcome_cases {P : Pool α β} {s : PoolState α β} (hI : Inv P s) (hd : allDone s = true) {i : Nat} {a : α}
    (hx : P.xs[i]? = some a) :
    (s.phase[i]? = some .done ∧ (effOutcomes P s)[i]? = some (P.exec i a)) ∨
    (s.phase[i]? = some .aborted ∧ (effOutcomes P s)[i]? = some (.err ItemOutcome.abortMsg)) := by
  rw [effOutcomes_getElem?, hx]
  rcases allDone_phase hd (i := i) (hI.lenPhase ▸ (List.getElem?_eq_some_iff.mp hx).1) with hph | hph
  · exact .inl ⟨hph, by simp [hph]⟩
  · exact .inr ⟨hph, by simp [hph]⟩

theorem final_arrays {P : Pool α β} {s : PoolState α β} (hI : Inv P s) (hd : allDone s = true) :
    s.outputs = (effOutcomes P s).map ItemOutcome.okVal ∧ s.errors = (effOutcomes P s).map ItemOutcome.failMsg := by
  have key : ∀ j : Nat, s.outputs[j]? = ((effOutcomes P s).map ItemOutcome.okVal)[j]? ∧
      s.errors[j]? = ((effOutcomes P s).map ItemOutcome.failMsg)[j]? := by
    intro j
    rw [List.getElem?_map, List.getElem?_map]
    cases hx : P.xs[j]? with
    | none =>
      have hj : P.n ≤ j := List.getElem?_eq_none_iff.mp hx
      rw [List.getElem?_eq_none (l := effOutcomes P s) (by rw [effOutcomes_length]; exact hj)]
      exact ⟨List.getElem?_eq_none (by rw [hI.lenOut]; exact hj), List.getElem?_eq_none (by rw [hI.lenErr]; exact hj)⟩
    | some x =>
      rcases effOutcome_cases hI hd hx with ⟨hph, he⟩ | ⟨hph, he⟩ <;> rw [he]
      · exact hI.doneRes j x hx hph
      · exact hI.abortedRes j hph
  exact ⟨List.ext_getElem? fun j => (key j).1, List.ext_getElem? fun j => (key j).2⟩

theorem allExecuted_of_allDone {P : Pool α β} {s : PoolState α β} (hI : Inv P s) (hc : s.cancelled = false)
    (hd : allDone s = true) : allExecuted s = true := by
  have hab := hI.noAbort hc
  simp only [allExecuted, allDone, List.all_eq_true] at hd ⊢
  intro ph hm
  have hna := (List.countP_eq_zero.mp hab) ph hm
  have hf := hd ph hm
  cases ph <;> simp [isFinal] at hf hna ⊢

theorem effOutcomes_of_allExecuted {P : Pool α β} {s : PoolState α β} (hI : Inv P s) (hall : allExecuted s = true) :
    effOutcomes P s = P.outcomes := by
  apply List.ext_getElem?
  intro j
  rw [effOutcomes_getElem?, outcomes_getElem?]
  cases hx : P.xs[j]? with
  | none => rfl
  | some a =>
    have hj : j < s.phase.length := by
      rw [hI.lenPhase]; exact (List.getElem?_eq_some_iff.mp hx).1
    simp [allExecuted_phase hall hj]

theorem assemble_done {P : Pool α β} {s : PoolState α β} (hI : Inv P s) (hd : allDone s = true) :
    assemble s = expectedOf (effOutcomes P s) := by
  obtain ⟨ho, he⟩ := final_arrays hI hd
  rw [assemble, ho, he, assembleOf_map]

theorem assemble_complete {P : Pool α β} {s : PoolState α β} (hI : Inv P s) (hc : s.cancelled = false)
    (hd : allDone s = true) : assemble s = expected P := by
  rw [assemble_done hI hd, effOutcomes_of_allExecuted hI (allExecuted_of_allDone hI hc hd), expected]

end Arca.Model.ForeachPool
