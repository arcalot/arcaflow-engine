/-
Which hypotheses of the completeness theorems (C01 `quiescent_run_has_verdict`, C03 `producible_output_is_returned`,
`no_producible_output_gives_error`) are needed: the clauses `WF3` has for them (`output_sink` for the invariant only),
`OrdAll`, the initial `start`, the completion of the steps and, for C03, that no evaluation failed.  (`LegalHistory` and
`EventReports` are fixed in the schemes; `OrdOK`, `OrdNodup` and the clauses of `WF` / `WF2` are not dropped here.)  The
statements are schemes parametrised by the conditions on the workflow, the processing order and the history; the theorems
are their instances (`Arca.Props.C01.quiescent_stmt`, …), each counterexample the instance with one condition dropped, on
a tiny workflow evaluated by the kernel (`decide +kernel`).
-/
import Arca.Proofs.LoopCheckSound

namespace Arca.Model.CompleteCex

def StartComplete (P : Prepared) (h : List Event) : Prop :=
  ∃ input rest, h = .start input :: rest ∧
    ∀ step stage, P.declares step stage → ∃ prev out busy, Event.stepComplete step prev out busy ∈ rest

def StartsWithStart (_ : Prepared) (h : List Event) : Prop := ∃ input rest, h = Event.start input :: rest

def AllComplete (P : Prepared) (h : List Event) : Prop :=
  ∀ step stage, P.declares step stage → ∃ prev out busy, Event.stepComplete step prev out busy ∈ h

def OrdPerm (ord : Order) : Prop := OrdOK ord ∧ OrdNodup ord ∧ OrdAll ord

def NoEF (P : Prepared) (fns : Fns) (ord : Order) (h : List Event) : Prop :=
  ∀ a ∈ (run P fns ord h).2, a.isEvalFailed = false

/-- C01 `quiescent_run_has_verdict` -/
def QuiescentStmt (W : Prepared → Prop) (O : Order → Prop) (H : Prepared → List Event → Prop) : Prop :=
  ∀ (P : Prepared) (fns : Fns) (ord : Order) (h : List Event), O ord → W P →
    LegalHistory P fns ord (LoopState.init P) h → (∀ e ∈ h, EventReports P e) → H P h → Verdict (run P fns ord h)

/-- C03 `producible_output_is_returned` (first part) -/
def ProducibleStmt (H : Prepared → List Event → Prop) (E : Prepared → Fns → Order → List Event → Prop) : Prop :=
  ∀ (P : Prepared) (fns : Fns) (ord : Order) (h : List Event), OrdPerm ord → P.WF3OK →
    LegalHistory P fns ord (LoopState.init P) h → (∀ e ∈ h, EventReports P e) → H P h → E P fns ord h →
    ∀ o, isOutputNode P o → Producible P (run P fns ord h).1.dag o → (run P fns ord h).1.result.isSome = true

/-- C03 `no_producible_output_gives_error` -/
def NoOutputStmt (E : Prepared → Fns → Order → List Event → Prop) : Prop :=
  ∀ (P : Prepared) (fns : Fns) (ord : Order) (h : List Event), OrdPerm ord → P.WF3OK →
    LegalHistory P fns ord (LoopState.init P) h → StartsWithStart P h → E P fns ord h →
    (∀ x, isOutputNode P x → statusIs (run P fns ord h).1.dag x St.unres) →
    countP Action.isNoMoreOutputs (run P fns ord h).2 = 1 ∧ (run P fns ord h).1.result = none

/-- the invariant (`run_core`): after every reaction the ready set is empty, unless an evaluation failed -/
def ReadyEmptyStmt (W : Prepared → Prop) : Prop :=
  ∀ (P : Prepared) (fns : Fns) (ord : Order) (h : List Event), OrdPerm ord → W P →
    LegalHistory P fns ord (LoopState.init P) h → StartsWithStart P h →
    hasEF (run P fns ord h).2 ∨ (run P fns ord h).1.dag.ready = []

/-- every clause of `wf3Clauses` except the one named `c` -/
def AllBut (c : String) (P : Prepared) : Prop := ∀ x ∈ P.wf3Clauses, x.1 ≠ c → x.2 = true

theorem AllBut.of_violated {c : String} {P : Prepared} (h : P.wf3Violated = [c]) : AllBut c P := by
  intro x hx hne
  cases hx2 : x.2 with
  | true => rfl
  | false =>
    have : x.1 ∈ P.wf3Violated := List.mem_map.2 ⟨x, List.mem_filter.2 ⟨hx, by rw [hx2]; rfl⟩, rfl⟩
    rw [h, List.mem_singleton] at this
    exact absurd this hne

def fns0 : Fns := fun _ _ => .error (.unknownFn "")
def nd (id : String) (out : List (String × Dep)) : Node String := ⟨id, .waiting, out, []⟩
def outIt (name : String) : Item := { kind := .output, output := name, data := some (.lit (.str "v")) }
def inIt : Item := { kind := .input }
def ordNone : Order := fun _ => []

theorem ordPerm_id : OrdPerm id := ⟨fun _ _ h => h, fun _ h => h, fun _ _ h => h⟩
theorem ordNone_ok : OrdOK ordNone ∧ OrdNodup ordNone := ⟨(fun _ _ h => nomatch h), fun _ _ => List.nodup_nil⟩

theorem legal_of {P : Prepared} {ord : Order} {h : List Event}
    (hb : legalHistoryB P fns0 ord (LoopState.init P) h = true) : LegalHistory P fns0 ord (LoopState.init P) h :=
  legalHistoryB_sound h _ hb

theorem startComplete_of {P : Prepared} {input : Val} {rest : List Event} (h : allCompleteB P rest = true) :
    StartComplete P (.start input :: rest) := ⟨input, rest, rfl, allCompleteB_sound h⟩

theorem forall_outputNodes {P : Prepared} {Q : String → Prop} (h : ∀ p ∈ P.items, p.2.kind = Kind.output → Q p.1)
    (x : String) (hx : isOutputNode P x) : Q x := by
  obtain ⟨it, hit, hk⟩ := hx
  exact h (x, it) (mem_of_lookup hit) hk

instance (P : Prepared) (x : String) : Decidable (isOutputNode P x) :=
  decidable_of_iff (∃ it ∈ lookup x P.items, it.kind = Kind.output)
    ⟨fun ⟨it, h, hk⟩ => ⟨it, h, hk⟩, fun ⟨it, h, hk⟩ => ⟨it, h, hk⟩⟩

instance (P : Prepared) (g : Graph String) (o : String) : Decidable (Producible P g o) := by
  unfold Producible; infer_instance

instance (l : List Action) : Decidable (hasEF l) := by unfold hasEF; infer_instance

/-- how a scheme is refuted: one case, its hypotheses evaluated -/
theorem QuiescentStmt.refuted {W : Prepared → Prop} {O : Order → Prop} {H : Prepared → List Event → Prop}
    {P : Prepared} {ord : Order} {h : List Event} (hO : O ord) (hW : W P)
    (hl : legalHistoryB P fns0 ord (LoopState.init P) h = true) (hr : h.all (eventReportsB P) = true) (hH : H P h)
    (hv : verdictB (run P fns0 ord h) = false) : ¬ QuiescentStmt W O H := fun S => by
  have := verdictB_of_verdict (S P fns0 ord h hO hW (legal_of hl) (all_eventReportsB hr) hH)
  rw [hv] at this
  cases this

theorem ProducibleStmt.refuted {H : Prepared → List Event → Prop} {E : Prepared → Fns → Order → List Event → Prop}
    {P : Prepared} {h : List Event} (o : String) (hW : P.WF3OK)
    (hl : legalHistoryB P fns0 id (LoopState.init P) h = true) (hr : h.all (eventReportsB P) = true) (hH : H P h)
    (hE : E P fns0 id h)
    (ho : isOutputNode P o ∧ Producible P (run P fns0 id h).1.dag o ∧ (run P fns0 id h).1.result.isSome = false) :
    ¬ ProducibleStmt H E := fun S => by
  have := S P fns0 id h ordPerm_id hW (legal_of hl) (all_eventReportsB hr) hH hE o ho.1 ho.2.1
  rw [ho.2.2] at this
  cases this

/-- the workflow of the positive examples: step `a` with the stages `s` (output `ok`) and `t`; the workflow output needs
`steps.a.s.ok` -/
def PX : Prepared :=
  { dag := { nodes := [nd "input" [], nd "steps.a.s" [("input", .and)], nd "steps.a.s.ok" [("steps.a.s", .and)],
                       nd "steps.a.t" [("input", .and)], nd "outputs.o" [("steps.a.s.ok", .and)]],
             edges := [("input", "steps.a.s", .and), ("steps.a.s", "steps.a.s.ok", .and), ("input", "steps.a.t", .and),
                       ("steps.a.s.ok", "outputs.o", .and)],
             ready := [] }
    items := [("input", inIt), ("steps.a.s", { kind := .stage, step := "a", stage := "s" }),
              ("steps.a.s.ok", { kind := .stageOutput, step := "a", stage := "s", output := "ok" }),
              ("steps.a.t", { kind := .stage, step := "a", stage := "t" }), ("outputs.o", outIt "o")]
    stages := [("a", [("s", ["ok"]), ("t", [])])]
    errCap := 2 }

/-- the step ends through `s` with the output `ok`: the workflow output is produced -/
def HXgood : List Event := [.stepComplete "a" "s" (some ("ok", .map [])) false]
/-- the step ends through `t`: `s` can no longer happen, the workflow output is impossible -/
def HXbad : List Event := [.stepComplete "a" "t" none false]

theorem PX_wf : PX.WF3OK := by decide +kernel

/-- what the examples of C01 and C03 need of the run in which the step ends through `s`, evaluated at once: the
hypotheses of the completeness theorems, and what the run returns -/
theorem PX_good_run :
    legalHistoryB PX fns0 id (LoopState.init PX) (.start .null :: HXgood) = true ∧
    HXgood.all (eventReportsB PX) = true ∧ allCompleteB PX HXgood = true ∧
    (∀ a ∈ (run PX fns0 id (.start .null :: HXgood)).2, a.isEvalFailed = false) ∧
    Producible PX (run PX fns0 id (.start .null :: HXgood)).1.dag "outputs.o" ∧
    (run PX fns0 id (.start .null :: HXgood)).2.any Action.isNoMoreOutputs = false := by decide +kernel

/-- the same of the run in which the step ends through `t` -/
theorem PX_bad_run :
    legalHistoryB PX fns0 id (LoopState.init PX) (.start .null :: HXbad) = true ∧
    HXbad.all (eventReportsB PX) = true ∧ allCompleteB PX HXbad = true ∧
    (∀ a ∈ (run PX fns0 id (.start .null :: HXbad)).2, a.isEvalFailed = false) ∧
    (∀ p ∈ PX.items, p.2.kind = Kind.output → statusIs (run PX fns0 id (.start .null :: HXbad)).1.dag p.1 St.unres) ∧
    (run PX fns0 id (.start .null :: HXbad)).1.result.isSome = false ∧
    (run PX fns0 id (.start .null :: HXbad)).2.any Action.isNoMoreOutputs = true := by decide +kernel

theorem PX_good_legal : LegalHistory PX fns0 id (LoopState.init PX) (.start .null :: HXgood) := legal_of PX_good_run.1
theorem PX_bad_legal : LegalHistory PX fns0 id (LoopState.init PX) (.start .null :: HXbad) := legal_of PX_bad_run.1

def Pcyc : Prepared :=
  { dag := { nodes := [nd "input" [], nd "g1" [("g2", .and)], nd "g2" [("g1", .and)], nd "outputs.o" [("g1", .and)]],
             edges := [("g2", "g1", .and), ("g1", "g2", .and), ("g1", "outputs.o", .and)], ready := [] }
    items := [("input", inIt), ("g1", { kind := .group }), ("g2", { kind := .group }), ("outputs.o", outIt "o")]
    stages := [], errCap := 2 }

def Pnoinput : Prepared :=
  { dag := { nodes := [nd "outputs.o" []], edges := [], ready := [] }
    items := [("outputs.o", outIt "o")], stages := [], errCap := 2 }

def Pinput2 : Prepared :=
  { dag := { nodes := [nd "input" [], nd "in2" [], nd "outputs.o" [("in2", .and)]],
             edges := [("in2", "outputs.o", .and)], ready := [] }
    items := [("input", inIt), ("in2", inIt), ("outputs.o", outIt "o")], stages := [], errCap := 2 }

def Pundecl : Prepared :=
  { dag := { nodes := [nd "input" [], nd "steps.a.s" [("input", .and)], nd "outputs.o" [("steps.a.s", .and)]],
             edges := [("input", "steps.a.s", .and), ("steps.a.s", "outputs.o", .and)], ready := [] }
    items := [("input", inIt), ("steps.a.s", { kind := .stage, step := "a", stage := "s" }), ("outputs.o", outIt "o")]
    stages := [], errCap := 2 }

def Pdup : Prepared :=
  { dag := { nodes := [nd "input" [], nd "outputs.o" [("input", .and)]],
             edges := [("input", "outputs.o", .and)], ready := [] }
    items := [("input", inIt), ("outputs.o", { kind := .group }), ("outputs.o", outIt "o")], stages := [], errCap := 2 }

def Pnoout : Prepared :=
  { dag := { nodes := [nd "input" []], edges := [], ready := [] }
    items := [("input", inIt)], stages := [], errCap := 2 }

def Pnotnode : Prepared :=
  { dag := { nodes := [nd "input" []], edges := [], ready := [] }
    items := [("input", inIt), ("outputs.o", outIt "o")], stages := [], errCap := 2 }

def Pnodata : Prepared :=
  { dag := { nodes := [nd "input" [], nd "outputs.o" [("input", .and)]],
             edges := [("input", "outputs.o", .and)], ready := [] }
    items := [("input", inIt), ("outputs.o", { kind := .output, output := "o" })], stages := [], errCap := 2 }

/-- each of these workflows violates exactly the clause it is the counterexample for -/
theorem violated_clauses :
    Pcyc.wf3Violated = ["acyclic"] ∧ Pnoinput.wf3Violated = ["has_input"] ∧ Pinput2.wf3Violated = ["input_id"] ∧
    Pundecl.wf3Violated = ["stage_declared"] ∧ Pdup.wf3Violated = ["items_nodup"] ∧
    Pnoout.wf3Violated = ["has_output"] ∧ Pnotnode.wf3Violated = ["output_is_node"] ∧
    Pnodata.wf3Violated = ["output_data"] := by decide +kernel

/-- the run of such a workflow (no stages: every step has completed) on `start` alone is legal and ends silently -/
theorem clause_needed {c : String} {P : Prepared} (hc : P.wf3Violated = [c]) (hs : allCompleteB P [] = true)
    (hl : legalHistoryB P fns0 id (LoopState.init P) [.start .null] = true)
    (hv : verdictB (run P fns0 id [.start .null]) = false) : ¬ QuiescentStmt (AllBut c) OrdPerm StartComplete :=
  QuiescentStmt.refuted ordPerm_id (AllBut.of_violated hc) hl rfl (startComplete_of hs) hv

/-- two dependency groups waiting for each other -/
theorem quiescent_needs_acyclic : ¬ QuiescentStmt (AllBut "acyclic") OrdPerm StartComplete :=
  clause_needed violated_clauses.1 rfl (by decide +kernel) (by decide +kernel)

/-- `Execute` cannot obtain the input node -/
theorem quiescent_needs_has_input : ¬ QuiescentStmt (AllBut "has_input") OrdPerm StartComplete :=
  clause_needed violated_clauses.2.1 rfl (by decide +kernel) (by decide +kernel)

/-- a second node of kind `input` is never resolved -/
theorem quiescent_needs_input_id : ¬ QuiescentStmt (AllBut "input_id") OrdPerm StartComplete :=
  clause_needed violated_clauses.2.2.1 rfl (by decide +kernel) (by decide +kernel)

/-- a stage node no callback will ever settle -/
theorem quiescent_needs_stage_declared : ¬ QuiescentStmt (AllBut "stage_declared") OrdPerm StartComplete :=
  clause_needed violated_clauses.2.2.2.1 rfl (by decide +kernel) (by decide +kernel)

/-- the output node is looked up as a dependency group -/
theorem quiescent_needs_items_nodup : ¬ QuiescentStmt (AllBut "items_nodup") OrdPerm StartComplete :=
  clause_needed violated_clauses.2.2.2.2.1 rfl (by decide +kernel) (by decide +kernel)

/-- nothing to produce, nothing to fail -/
theorem quiescent_needs_has_output : ¬ QuiescentStmt (AllBut "has_output") OrdPerm StartComplete :=
  clause_needed violated_clauses.2.2.2.2.2.1 rfl (by decide +kernel) (by decide +kernel)

/-- an output that is no node never leaves the waiting set -/
theorem quiescent_needs_output_is_node : ¬ QuiescentStmt (AllBut "output_is_node") OrdPerm StartComplete :=
  clause_needed violated_clauses.2.2.2.2.2.2.1 rfl (by decide +kernel) (by decide +kernel)

/-- an output node without data is skipped -/
theorem quiescent_needs_output_data : ¬ QuiescentStmt (AllBut "output_data") OrdPerm StartComplete :=
  clause_needed violated_clauses.2.2.2.2.2.2.2 rfl (by decide +kernel) (by decide +kernel)

/-- the order drops the popped nodes -/
theorem quiescent_needs_OrdAll : ¬ QuiescentStmt Prepared.WF3OK (fun ord => OrdOK ord ∧ OrdNodup ord) StartComplete :=
  QuiescentStmt.refuted (P := PX) (ord := ordNone) (h := .start .null :: HXgood) ordNone_ok PX_wf (by decide +kernel)
    (by decide +kernel) (startComplete_of (by decide +kernel)) (by decide +kernel)

def Pmin : Prepared :=
  { dag := { nodes := [nd "input" [], nd "outputs.o" [("input", .and)]],
             edges := [("input", "outputs.o", .and)], ready := [] }
    items := [("input", inIt), ("outputs.o", outIt "o")], stages := [], errCap := 2 }

theorem Pmin_wf : Pmin.WF3OK := by decide +kernel

/-- without `start` nothing happens -/
theorem quiescent_needs_start : ¬ QuiescentStmt Prepared.WF3OK OrdPerm AllComplete :=
  QuiescentStmt.refuted (P := Pmin) (h := []) ordPerm_id Pmin_wf rfl rfl (allCompleteB_sound rfl) (by decide +kernel)

/-- while the step the output needs has not completed there is no verdict (and there must not be one) -/
theorem quiescent_needs_completion : ¬ QuiescentStmt Prepared.WF3OK OrdPerm StartsWithStart :=
  QuiescentStmt.refuted (P := PX) (h := [.start .null]) ordPerm_id PX_wf (by decide +kernel) rfl ⟨_, _, rfl⟩ (by decide +kernel)

/-- the stage node of `a` (input cannot be evaluated) and the output node become ready together; the stage node is
processed first, `notifySteps` returns and the output node is dropped -/
def Pef2 : Prepared :=
  { dag := { nodes := [nd "input" [], nd "steps.a.s" [("input", .and)], nd "outputs.o" [("input", .and)]],
             edges := [("input", "steps.a.s", .and), ("input", "outputs.o", .and)], ready := [] }
    items := [("input", inIt),
              ("steps.a.s", { kind := .stage, step := "a", stage := "s", data := some (.map [("x", .expr (.call "f" []))]) }),
              ("outputs.o", outIt "o")]
    stages := [("a", [("s", [])])], errCap := 2 }

def Hef2 : List Event := [.start .null, .stepComplete "a" "s" none false]

theorem producible_needs_no_eval_failure : ¬ ProducibleStmt StartComplete (fun _ _ _ _ => True) :=
  ProducibleStmt.refuted (P := Pef2) (h := Hef2) "outputs.o" (by decide +kernel) (by decide +kernel) (by decide +kernel)
    (startComplete_of (by decide +kernel)) trivial (by decide +kernel)

/-- `o` needs the input and waits for the end (`cand`) of the stage `s` of `a` -/
def Pcand : Prepared :=
  { dag := { nodes := [nd "input" [], nd "steps.a.s" [("input", .and)],
                       nd "outputs.o" [("input", .and), ("steps.a.s", .cand)]],
             edges := [("input", "steps.a.s", .and), ("input", "outputs.o", .and), ("steps.a.s", "outputs.o", .cand)],
             ready := [] }
    items := [("input", inIt), ("steps.a.s", { kind := .stage, step := "a", stage := "s" }), ("outputs.o", outIt "o")]
    stages := [("a", [("s", [])])], errCap := 2 }

theorem producible_needs_completion : ¬ ProducibleStmt StartsWithStart NoEF :=
  ProducibleStmt.refuted (P := Pcand) (h := [.start .null]) "outputs.o" (by decide +kernel) (by decide +kernel) rfl ⟨_, _, rfl⟩
    (by unfold NoEF; decide +kernel) (by decide +kernel)

/-- when the stage `t` of `b` fails, the stage node of `a` (which waits for the end of `t`, and whose input cannot be
evaluated) and the failed output node become ready together; the stage node is processed first -/
def Pef3 : Prepared :=
  { dag := { nodes := [nd "input" [], nd "steps.b.t" [("input", .and)],
                       nd "steps.a.s" [("input", .and), ("steps.b.t", .cand)], nd "outputs.o" [("steps.b.t", .and)]],
             edges := [("input", "steps.b.t", .and), ("input", "steps.a.s", .and), ("steps.b.t", "steps.a.s", .cand),
                       ("steps.b.t", "outputs.o", .and)],
             ready := [] }
    items := [("input", inIt), ("steps.b.t", { kind := .stage, step := "b", stage := "t" }),
              ("steps.a.s", { kind := .stage, step := "a", stage := "s", data := some (.map [("x", .expr (.call "f" []))]) }),
              ("outputs.o", outIt "o")]
    stages := [("a", [("s", [])]), ("b", [("t", [])])], errCap := 2 }

def Hef3 : List Event := [.start .null, .stageFail "b" "t"]

theorem no_output_needs_no_eval_failure : ¬ NoOutputStmt (fun _ _ _ _ => True) := fun S => by
  have := (S Pef3 fns0 id Hef3 ordPerm_id (by decide +kernel) (legal_of (by decide +kernel)) ⟨_, _, rfl⟩ trivial
    (forall_outputNodes (by decide +kernel))).1
  revert this
  decide +kernel

/-- the output `p` depends on the output `o` -/
def Psink : Prepared :=
  { dag := { nodes := [nd "input" [], nd "outputs.o" [("input", .and)], nd "outputs.p" [("outputs.o", .and)]],
             edges := [("input", "outputs.o", .and), ("outputs.o", "outputs.p", .and)], ready := [] }
    items := [("input", inIt), ("outputs.o", outIt "o"), ("outputs.p", outIt "p")], stages := [], errCap := 2 }

theorem Psink_violates : Psink.wf3Violated = ["output_sink"] := by decide +kernel

/-- resolving `o` makes `p` ready after `notifySteps` has taken the ready nodes: `p` stays in the ready set.  This refutes the
INVARIANT (`run_core`), not the final statements: no run is known in which a non-sink output makes a finished workflow end
silently; the clause holds of every real prepared workflow and keeps the invariant simple. -/
theorem ready_empty_needs_output_sink : ¬ ReadyEmptyStmt (AllBut "output_sink") := fun S =>
  absurd (S Psink fns0 id [.start .null] ordPerm_id (AllBut.of_violated Psink_violates) (legal_of (by decide +kernel))
    ⟨_, _, rfl⟩) (by decide +kernel)

end Arca.Model.CompleteCex
