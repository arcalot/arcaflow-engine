/-
Reordering steps and outputs performs the same operations in another order (`ops_perm`, given distinct step ids, which
acceptance implies), and the same operations build the same graph up to the order of the node and edge lists, which
`hasCycles` does not depend on (`built_perm`).  That the reordered sequence still runs through is `PrepareOrder.lean`.
-/
import Arca.Model.Prepare
import Arca.Proofs.PrepareExact

namespace Arca.Model
open Arca.Gen (StageRow)

structure Wf.Reordered (wf wf' : Wf) : Prop where
  inputs : wf'.inputFields = wf.inputFields
  steps : wf.steps.Perm wf'.steps
  outputs : wf.outputs.Perm wf'.outputs

theorem Wf.Reordered.symm {wf wf' : Wf} (h : wf.Reordered wf') : wf'.Reordered wf :=
  ⟨h.inputs.symm, h.steps.symm, h.outputs.symm⟩

def Wf.UniqueIds (wf : Wf) : Prop := ∀ s ∈ wf.steps, ∀ s' ∈ wf.steps, s.id = s'.id → s = s'

theorem Wf.Reordered.uniqueIds {wf wf' : Wf} (h : wf.Reordered wf') (hu : wf.UniqueIds) : wf'.UniqueIds :=
  fun s hs s' hs' hid => hu s (h.steps.mem_iff.2 hs) s' (h.steps.mem_iff.2 hs') hid

theorem resolve_reordered {po : List String} {wf wf' : Wf} (h : wf.Reordered wf') (hu : wf.UniqueIds) :
    wf.resolve po = wf'.resolve po := by
  funext p
  have hfind : ∀ s, wf.findStep s = wf'.findStep s := fun s =>
    List.find?_perm_unique h.steps fun a ha b hb pa pb =>
      hu a ha b hb ((of_decide_eq_true pa).trans (of_decide_eq_true pb).symm)
  cases p with
  | nil => rfl
  | cons k rest => simp only [Wf.resolve, h.inputs, hfind]

theorem mem_allSites_reordered {wf wf' : Wf} (h : wf.Reordered wf') {σ : Site} :
    σ ∈ wf.allSites ↔ σ ∈ wf'.allSites :=
  (((h.steps.flatMap_right _).append (h.outputs.map _)).flatMap_right _).mem_iff

theorem ops_perm {po : List String} {wf wf' : Wf} (h : wf.Reordered wf') (hu : wf.UniqueIds) :
    (wf.ops po).Perm (wf'.ops po) := by
  unfold Wf.ops
  rw [← resolve_reordered h hu, ← h.steps.isEmpty_eq, ← h.outputs.isEmpty_eq]
  exact ((((List.Perm.refl _).append (h.steps.flatMap_right _)).append (h.steps.flatMap_right _)).append
    (.refl _)).append (h.outputs.flatMap_right _)

theorem hasCyclesAux_perm (f : Nat) {r r' : List String} {E E' : List (String × String × Dep)}
    (hr : r.Perm r') (hE : E.Perm E') : Graph.hasCyclesAux f r E = Graph.hasCyclesAux f r' E' := by
  induction f generalizing r r' E E' with
  | zero => simp only [Graph.hasCyclesAux, hr.isEmpty_eq]
  | succ f ih =>
    simp only [Graph.hasCyclesAux]
    have hfree : (r.filter (fun n => !(E.any (fun e => e.2.1 = n)))).Perm
        (r'.filter (fun n => !(E'.any (fun e => e.2.1 = n)))) :=
      List.filter_congr_perm hr (fun x _ => by rw [hE.any_eq])
    rw [hfree.isEmpty_eq, hr.isEmpty_eq]
    split
    · rfl
    · exact ih (List.filter_congr_perm hr (fun x _ => by simp only [hfree.mem_iff, decide_not]))
        (List.filter_congr_perm hE (fun x _ => by simp only [hfree.mem_iff]))

theorem built_perm {po : List String} {wf wf' : Wf} (hp : (wf.ops po).Perm (wf'.ops po)) {g g' : Graph String}
    (hB : BuiltBy (wf.ops po) g) (hB' : BuiltBy (wf'.ops po) g') :
    (g.nodes.map (·.id)).Perm (g'.nodes.map (·.id)) ∧ g.edges.Perm g'.edges ∧ g.hasCycles = g'.hasCycles := by
  have hn : (g.nodes.map (·.id)).Perm (g'.nodes.map (·.id)) := by
    rw [hB.ids, hB'.ids]
    exact (nodeIds_perm hp).map _
  have he : g.edges.Perm g'.edges := by
    refine (List.perm_ext_iff_of_nodup (List.Nodup.of_map hB.fresh.inv.edges_nodup)
      (List.Nodup.of_map hB'.fresh.inv.edges_nodup)).2 fun e => ?_
    simp only [edges_iff_ops hB, edges_iff_ops hB', hp.mem_iff]
  refine ⟨hn, he, ?_⟩
  unfold Graph.hasCycles
  rw [show g.nodes.length = g'.nodes.length by simpa using hn.length_eq]
  exact hasCyclesAux_perm _ hn he

end Arca.Model
