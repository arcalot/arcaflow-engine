/-
Transformed nodes satisfy `Node.wf`; on such nodes `Raw`, `MapKeys`, `MapKey` and `yamlBuildExpressions` do not panic.
-/
import Arca.Model.Yaml

namespace Arca.Model.Yaml

mutual
/-- What yaml.v3 guarantees and `transform` relies on: no document node without content on the part of the tree
    `transform` can reach. -/
def YNode.docsOk : YNode → Bool
  | .doc [] => false
  | .doc (c :: _) => c.docsOk
  | .map _ _ es => docsOkEntries es
  | .seq _ _ xs => docsOkList xs
  | _ => true
def docsOkList : List YNode → Bool
  | [] => true
  | x :: xs => x.docsOk && docsOkList xs
def docsOkEntries : List (YNode × YNode) → Bool
  | [] => true
  | (k, v) :: rest => k.docsOk && v.docsOk && docsOkEntries rest
end

mutual
/-- Of a map key only the type id `str` is asked: all that `Raw`, `MapKeys` and `MapKey` read of it
    (`n.contents[i].Raw().(string)` is the unchecked assertion of `Expected/Asserts.lean`). -/
def Node.wf : Node → Bool
  | .mk .str _ _ _ => true
  | .mk .seq _ cs _ => wfList cs
  | .mk .map _ cs _ => wfPairs cs
  | .mk .other _ _ _ => false
def wfList : List Node → Bool
  | [] => true
  | x :: xs => x.wf && wfList xs
def wfPairs : List Node → Bool
  | [] => true
  | [_] => false
  | k :: v :: rest => (k.typeID == .str) && v.wf && wfPairs rest
end

theorem wfList_mem : ∀ (l : List Node), wfList l = true → ∀ x ∈ l, x.wf = true
  | [], _, x, hx => nomatch hx
  | y :: ys, h, x, hx => by
    rw [wfList, Bool.and_eq_true] at h
    rcases List.mem_cons.mp hx with rfl | hx'
    · exact h.1
    · exact wfList_mem ys h.2 x hx'

theorem Out.isPanic_eq_false_iff {ε α : Type} {r : Out ε α} : r.isPanic = false ↔ ∀ s, r ≠ .panic s := by
  cases r <;> simp [Out.isPanic]

/-! Both facts about `transform` go along its recursion (`transform.mutual_induct`); the conjuncts stand in the order of
its conclusion, which is not the order of the mutual block. -/

/-- the only panic site is the document node without content -/
theorem transform_no_panic_aux : (∀ t : YNode, t.docsOk = true → (transform t).isPanic = false) ∧
    (∀ l, docsOkEntries l = true → (transformEntries l).isPanic = false) ∧
    (∀ l, docsOkList l = true → (transformList l).isPanic = false) := by
  apply transform.mutual_induct <;> intros <;>
    simp_all [transform, transformList, transformEntries, YNode.docsOk, docsOkList, docsOkEntries, Out.isPanic]

theorem transform_no_panic : ∀ (t : YNode), t.docsOk = true → (transform t).isPanic = false :=
  transform_no_panic_aux.1
theorem transformList_no_panic : ∀ (l : List YNode), docsOkList l = true → (transformList l).isPanic = false :=
  transform_no_panic_aux.2.2
theorem transformEntries_no_panic : ∀ (l : List (YNode × YNode)), docsOkEntries l = true → (transformEntries l).isPanic = false :=
  transform_no_panic_aux.2.1

def Out.all {ε α : Type} (p : α → Prop) : Out ε α → Prop
  | .ok a => p a
  | _ => True

theorem Out.all_ok {ε α : Type} {p : α → Prop} {r : Out ε α} {a : α} (h : r.all p) (hr : r = .ok a) : p a := by
  subst hr
  exact h

theorem keysScalar_cons (k v : YNode) (rest : List (YNode × YNode)) :
    keysScalar ((k, v) :: rest) = (k.isScalar && keysScalar rest) := rfl

theorem typeID_of_scalar {k : YNode} {n : Node} (h : transform k = .ok n) (hk : k.isScalar = true) : n.typeID = .str := by
  cases k <;> cases hk
  cases h
  rfl

theorem transform_wf_aux : (∀ t : YNode, (transform t).all (·.wf = true)) ∧
    (∀ l, keysScalar l = true → (transformEntries l).all (wfPairs · = true)) ∧
    (∀ l, (transformList l).all (wfList · = true)) := by
  apply transform.mutual_induct <;> intros <;>
    simp_all [transform, transformList, transformEntries, Node.wf, wfList, wfPairs, keysScalar_cons, Out.all]
  -- left: the key of a map entry is a scalar node
  exact typeID_of_scalar ‹_› (And.left ‹_›)

theorem transform_wf : ∀ (t : YNode) (n : Node), transform t = .ok n → n.wf = true :=
  fun t _ => Out.all_ok (transform_wf_aux.1 t)
theorem transformList_wf : ∀ (l : List YNode) (ns : List Node), transformList l = .ok ns → wfList ns = true :=
  fun l _ => Out.all_ok (transform_wf_aux.2.2 l)
theorem transformEntries_wf : ∀ (l : List (YNode × YNode)) (ns : List Node), keysScalar l = true →
    transformEntries l = .ok ns → wfPairs ns = true :=
  fun l _ hk => Out.all_ok (transform_wf_aux.2.1 l hk)

theorem raw_of_str {n : Node} (h : n.typeID = .str) : raw n = .ok (.str n.value) := by
  cases n with
  | mk t tag cs v =>
    cases (h : t = .str)
    rw [raw, Node.value]

mutual
theorem raw_wf : ∀ (n : Node), n.wf = true → ∃ v, raw n = .ok v
  | .mk .str _ _ v, _ => ⟨.str v, rfl⟩
  | .mk .seq _ cs _, h =>
    have ⟨xs, hxs⟩ := rawList_wf cs h
    ⟨.seq xs, by rw [raw, hxs]⟩
  | .mk .map _ cs _, h =>
    have ⟨kvs, hk⟩ := rawPairs_wf cs h
    ⟨.map kvs, by rw [raw, hk]⟩
  | .mk .other _ _ _, h => nomatch h
theorem rawList_wf : ∀ (l : List Node), wfList l = true → ∃ vs, rawList l = .ok vs
  | [], _ => ⟨[], rfl⟩
  | x :: xs, h =>
    have h := Bool.and_eq_true_iff.mp h
    have ⟨v, hv⟩ := raw_wf x h.1
    have ⟨vs, hvs⟩ := rawList_wf xs h.2
    ⟨v :: vs, by rw [rawList, hv, hvs]⟩
theorem rawPairs_wf : ∀ (l : List Node), wfPairs l = true → ∃ kvs, rawPairs l = .ok kvs
  | [], _ => ⟨[], rfl⟩
  | [_], h => nomatch h
  | k :: v :: rest, h => by
    simp only [wfPairs, Bool.and_eq_true, beq_iff_eq] at h
    obtain ⟨val, hv⟩ := raw_wf v h.1.2
    obtain ⟨kvs, hk⟩ := rawPairs_wf rest h.2
    exact ⟨(k.value, val) :: kvs, by rw [rawPairs, raw_of_str h.1.1, hv, hk]⟩
end

/-- that every key `MapKeys` lists is found by `MapKey` is what makes the `found` result the Go code discards harmless -/
theorem mapKeysC_mapKeyC_of_wf : ∀ (cs : List Node), wfPairs cs = true →
    ∃ ks, mapKeysC cs = .ok ks ∧ (∀ key ∈ ks, ∃ m, mapKeyC key cs = .ok (some m) ∧ m.wf = true) ∧
      ∀ key, ∃ r, mapKeyC key cs = .ok r ∧ ∀ m, r = some m → m.wf = true
  | [], _ => ⟨[], rfl, (fun _ h => nomatch h), fun _ => ⟨none, rfl, fun _ h => nomatch h⟩⟩
  | [_], h => by cases h
  | k :: v :: rest, h => by
    simp only [wfPairs, Bool.and_eq_true, beq_iff_eq] at h
    obtain ⟨ks, hks, hfound, hany⟩ := mapKeysC_mapKeyC_of_wf rest h.2
    have hstep : ∀ key, mapKeyC key (k :: v :: rest) = if key = k.value then .ok (some v) else mapKeyC key rest :=
      fun key => by rw [mapKeyC, raw_of_str h.1.1]
    refine ⟨k.value :: ks, by rw [mapKeysC, hks], fun key hin => ?_, fun key => ?_⟩ <;> rw [hstep] <;>
      by_cases hk : key = k.value
    · exact ⟨v, if_pos hk, h.1.2⟩
    · rw [if_neg hk]
      exact hfound key ((List.mem_cons.mp hin).resolve_left hk)
    · exact ⟨some v, if_pos hk, fun m hm => by cases hm; exact h.1.2⟩
    · rw [if_neg hk]
      exact hany key

theorem mapKeys_mapKey_of_wf {n : Node} (hwf : n.wf = true) (ht : n.typeID = .map) :
    ∃ ks, mapKeys n = .ok ks ∧ (∀ key ∈ ks, ∃ m, mapKey n key = .ok (some m) ∧ m.wf = true) ∧
      ∀ key, ∃ r, mapKey n key = .ok r ∧ ∀ m, r = some m → m.wf = true := by
  cases n with
  | mk t tag cs v =>
    cases (ht : t = .map)
    exact mapKeysC_mapKeyC_of_wf cs hwf

/-- passes one guard of the Go code: `ha` is for what the guarded statement returns (`rfl`: an error) -/
theorem Out.isPanic_ite {ε α : Type} {c : Prop} [Decidable c] {a b : Out ε α} (ha : a.isPanic = false)
    (hb : ¬ c → b.isPanic = false) : (if c then a else b).isPanic = false := by
  split
  · exact ha
  · exact hb ‹¬ c›

theorem mapOk_isPanic {ε α β : Type} (f : α → β) (r : Out ε α) : (r.mapOk f).isPanic = r.isPanic := by
  cases r <;> rfl

theorem buildExpression_no_panic (env : Env) (n : Node) : (buildExpression env n).isPanic = false :=
  Out.isPanic_ite rfl fun _ => Out.isPanic_ite rfl fun _ => rfl

theorem buildOrDisabled_no_panic (env : Env) (n : Node) : (buildOrDisabled env n).isPanic = false := by
  have h := buildExpression_no_panic env n
  unfold buildOrDisabled
  generalize buildExpression env n = r at h
  cases r with
  | panic s => cases h
  | err e => rfl
  | ok t =>
    dsimp only
    split
    · rfl
    · split <;> rfl

theorem buildOptional_no_panic (env : Env) (n : Node) : (buildOptional env n).isPanic = false := by
  have h := buildExpression_no_panic env n
  unfold buildOptional
  generalize buildExpression env n = r at h
  cases r with
  | panic s => cases h
  | _ =>
    split
    · rfl
    · split <;> rfl

theorem buildKeys_no_panic (env : Env) (n : Node) : ∀ (keys : List String),
    (∀ key ∈ keys, ∃ m, mapKey n key = .ok (some m) ∧ (build env m).isPanic = false) →
      (buildKeys env n keys).isPanic = false
  | [], _ => by rw [buildKeys]; rfl
  | key :: rest, hkeys => by
    obtain ⟨m, hm, hb⟩ := hkeys key (by simp)
    have hrest := buildKeys_no_panic env n rest fun k hk => hkeys k (by simp [hk])
    rw [buildKeys]
    split <;> cases hm.symm.trans ‹_›
    revert hb hrest
    cases build env m <;> cases buildKeys env n rest <;> first | exact fun _ _ => rfl | nofun

theorem buildList_no_panic (env : Env) : ∀ (l : List Node), (∀ x ∈ l, (build env x).isPanic = false) →
    (buildList env l).isPanic = false
  | [], _ => by rw [buildList]; rfl
  | x :: xs, h => by
    have hx := h x (by simp)
    have hxs := buildList_no_panic env xs fun y hy => h y (by simp [hy])
    rw [buildList]
    revert hx hxs
    cases build env x <;> cases buildList env xs <;> first | exact fun _ _ => rfl | nofun

/-- The only panic sites are `MapKeys` / `MapKey` on something that is not a map with string keys, and a listed key that
    is not found.  Strong induction on the size of the node, along the text of `build` (`build.mutual_induct` has a case
    per return statement, with anonymous guards). -/
theorem build_no_panic (env : Env) (n : Node) (hwf : n.wf = true) : (build env n).isPanic = false := by
  induction hk : sizeOf n using Nat.strongRecOn generalizing n with
  | ind k ih =>
    subst hk
    -- `MapKeys` and the key loop of a well-formed map `o` that is `n` or smaller
    have keys : ∀ {o : Node} (f : List (String × Tree) → Tree), o.wf = true → o.typeID = .map → sizeOf o ≤ sizeOf n →
        ∃ ks, mapKeys o = .ok ks ∧ ((buildKeys env o ks).mapOk f).isPanic = false := by
      intro o f howf homap hle
      obtain ⟨ks, hks, hfound, _⟩ := mapKeys_mapKey_of_wf howf homap
      refine ⟨ks, hks, (mapOk_isPanic f _).trans (buildKeys_no_panic env o ks fun key hkey => ?_)⟩
      obtain ⟨m, hm, hmwf⟩ := hfound key hkey
      exact ⟨m, hm, ih _ (Nat.lt_of_lt_of_le (mapKey_sizeOf hm) hle) m hmwf rfl⟩
    rw [build.eq_def]
    refine Out.isPanic_ite (buildExpression_no_panic env n) fun _ => ?_
    refine Out.isPanic_ite ?_ fun _ => ?_
    · -- `buildOneOfExpressions`
      refine Out.isPanic_ite rfl fun hmap => ?_
      obtain ⟨_, _, _, hany⟩ := mapKeys_mapKey_of_wf hwf (Decidable.not_not.mp hmap)
      obtain ⟨_, hr₁, _⟩ := hany "discriminator"
      obtain ⟨_, hr₂, hwf₂⟩ := hany "one_of"
      split
      · next h => cases hr₁.symm.trans h
      · rfl
      refine Out.isPanic_ite rfl fun _ => Out.isPanic_ite rfl fun _ => ?_
      split
      · next h => cases hr₂.symm.trans h
      · rfl
      next o ho =>
      refine Out.isPanic_ite rfl fun homap => ?_
      obtain ⟨ks, hks, hb⟩ := keys (.oneof _) (hwf₂ o (PRes.ok.inj (hr₂.symm.trans ho))) (Decidable.not_not.mp homap)
        (Nat.le_of_lt (mapKey_sizeOf ho))
      rw [hks]
      exact hb
    refine Out.isPanic_ite (buildOrDisabled_no_panic env n) fun _ => ?_
    refine Out.isPanic_ite (buildOptional_no_panic env n) fun _ => ?_
    obtain ⟨t, tag, cs, v⟩ := n
    cases t with
    | str | other => rfl
    | map =>
      obtain ⟨ks, hks, hb⟩ := keys .map hwf rfl (Nat.le_refl _)
      dsimp only
      rw [hks]
      exact hb
    | seq =>
      refine (mapOk_isPanic _ _).trans (buildList_no_panic env cs fun x hx => ih _ ?_ x (wfList_mem cs hwf x hx) rfl)
      have := List.sizeOf_lt_of_mem hx
      simp
      omega

end Arca.Model.Yaml
