/-
A successful `subworkflowCache` has found every transitively referenced file, which exists, converts and is on no
reference cycle; it succeeds when all this holds; it never panics.  Likewise `checkCycles`.

`subworkflowCache`, `checkSubworkflowCycles` and the file part of `Parse` are modelled twice, under the same Lean names;
no theorem connects the two models, and a change to the Go functions concerns both (C11 and C20 both pin them).
* `Arca.Model.SubWf` (here, C11, stream `parse-fs`): the file system is a finite list, hence a termination measure and no
  fuel; a cache is the list of its keys; `StepWorkflowPaths` is modelled on the shapes of steps; no root directories.
* `Arca.Model.EngineApi` (C20, stream `engineapi`): `readFile` is a function, a chain of distinct files can be unbounded,
  hence fuel and `Err.tooDeep`; caches carry contents and root directories; `StepWorkflowPaths` is the parameter
  `Wf.refs`.  Acyclicity is `Ranked` there (fuel wants a bound); its `OnCycle` is the by-key notion, `KeyOnCycle` here.
* Errors: `cycle` = `selfReference`, `invalid` = `yaml`, `missing` = `readError`.
-/
import Arca.Model.SubWf

namespace Arca.Model.SubWf

theorem mem_insertNew {p q : String} {acc : List String} : q ∈ insertNew p acc ↔ q ∈ acc ∨ q = p := by
  unfold insertNew
  by_cases hp : p ∈ acc <;> simp +contextual [hp]

theorem mem_addStepPath {acc : List String} {s : Step} {q : String} :
    q ∈ addStepPath acc s ↔ q ∈ acc ∨ stepPath s = some q := by
  unfold addStepPath
  cases stepPath s <;> simp [mem_insertNew, eq_comm]

theorem mem_foldl_paths (steps : List Step) (acc : List String) (q : String) :
    q ∈ steps.foldl addStepPath acc ↔ q ∈ acc ∨ ∃ s ∈ steps, stepPath s = some q := by
  induction steps generalizing acc with
  | nil => simp
  | cons s rest ih => simp [ih, mem_addStepPath, or_assoc]

/-- a path is collected exactly when some step is a map whose `kind` is the string "foreach" and whose `workflow` is
    that string -/
theorem mem_stepWorkflowPaths {steps : List Step} {q : String} :
    q ∈ stepWorkflowPaths steps ↔ ∃ s ∈ steps, stepPath s = some q := by
  simp [stepWorkflowPaths, mem_foldl_paths]

/-- the error propagation the model spells out arm by arm, like Go's `if err != nil`; the equations below restate the
    functions with it -/
def Outcome.bind {α β : Type} (r : Outcome α) (f : α → Outcome β) : Outcome β :=
  match r with
  | .ok a => f a
  | .error e => .error e
  | .panic s => .panic s

theorem Outcome.bind_eq_ok {α β : Type} {r : Outcome α} {f : α → Outcome β} {b : β} :
    r.bind f = .ok b ↔ ∃ a, r = .ok a ∧ f a = .ok b := by
  cases r <;> simp [Outcome.bind]

theorem Outcome.bind_ne_panic {α β : Type} {r : Outcome α} {f : α → Outcome β} {s : String} (hr : r ≠ .panic s)
    (hf : ∀ a, f a ≠ .panic s) : r.bind f ≠ .panic s := by
  cases r <;> simp_all [Outcome.bind]

section
variable {norm : String → String} {fs : FS} {sup : Supplied} {chain : List String}

@[simp] theorem loopSupplied_nil (acc : List (List String)) : loopSupplied norm fs sup chain [] acc = .ok acc := by
  rw [loopSupplied]

@[simp] theorem loopSupplied_cons (p : String) (rest : List String) (acc : List (List String)) :
    loopSupplied norm fs sup chain (p :: rest) acc =
      match supLookup sup p with
      | none => loopSupplied norm fs sup chain rest acc
      | some .invalid => if p ∈ chain then .error .cycle else .error .invalid
      | some (.wf sub) =>
        if p ∈ chain then .error .cycle
        else (subworkflowCache norm fs sup sub acc (chain ++ [p])).bind fun flowCache =>
          loopSupplied norm fs sup chain rest (acc ++ [flowCache]) := by
  rw [loopSupplied]
  split <;> simp only [*]
  split
  · rfl
  · cases subworkflowCache norm fs sup _ acc (chain ++ [p]) <;> rfl

@[simp] theorem loopFiles_nil (acc : List (List String)) : loopFiles norm fs sup chain [] acc = .ok acc := by
  rw [loopFiles]

@[simp] theorem loopFiles_cons (p : String) (rest : List String) (acc : List (List String)) :
    loopFiles norm fs sup chain (p :: rest) acc =
      if norm p ∈ chain then .error .cycle
      else match lookup fs (norm p) with
        | none => .error .missing
        | some .invalid => .error .invalid
        | some (.wf sub) => (subworkflowCache norm fs sup sub acc (chain ++ [norm p])).bind fun flowCache =>
          loopFiles norm fs sup chain rest (acc ++ [flowCache]) := by
  rw [loopFiles]
  split
  · rfl
  · split <;> simp only [*]
    cases subworkflowCache norm fs sup _ acc (chain ++ [norm p]) <;> rfl

theorem subworkflowCache_eq (steps : List Step) (acc : List (List String)) :
    subworkflowCache norm fs sup steps acc chain =
      (loopSupplied norm fs sup chain (stepWorkflowPaths steps) acc).bind fun flowCaches =>
        let rest := (stepWorkflowPaths steps).filter (fun p => (supLookup sup p).isNone)
        if rest.isEmpty then .ok flowCaches.flatten
        else if allPresent norm fs rest then
          (loopFiles norm fs sup chain rest flowCaches).bind fun caches => .ok (caches ++ [rest]).flatten
        else .error .missing := by
  rw [subworkflowCache]
  cases loopSupplied norm fs sup chain (stepWorkflowPaths steps) acc <;> simp only [Outcome.bind]
  split
  · rfl
  · split
    · cases loopFiles norm fs sup chain _ _ <;> rfl
    · rfl

end

theorem checkCycles_eq (ctx : FS) (steps : List Step) (chain : List String) :
    checkCycles ctx steps chain = loopCheck ctx chain (stepWorkflowPaths steps) := by
  rw [checkCycles]

@[simp] theorem loopCheck_nil (ctx : FS) (chain : List String) : loopCheck ctx chain [] = .ok () := by
  rw [loopCheck]

@[simp] theorem loopCheck_cons (ctx : FS) (chain : List String) (p : String) (rest : List String) :
    loopCheck ctx chain (p :: rest) =
      if p ∈ chain then .error .cycle
      else match lookup ctx p with
        | none => loopCheck ctx chain rest
        | some .invalid => .error .invalid
        | some (.wf sub) => (checkCycles ctx sub (chain ++ [p])).bind fun _ => loopCheck ctx chain rest := by
  rw [loopCheck]
  split
  · rfl
  · split <;> simp only [*]
    cases checkCycles ctx _ (chain ++ [p]) <;> rfl

/-- the content a referenced key denotes: the caller's file under that key, else the file on disk -/
def denot (norm : String → String) (fs : FS) (sup : Supplied) (p : String) : Option FileContent :=
  match supLookup sup p with
  | some c => some c
  | none => lookup fs (norm p)

/-- what the chain holds for a referenced key: the key of a supplied file, the (absolute) name of a file on disk -/
def entry (norm : String → String) (sup : Supplied) (p : String) : String :=
  if (supLookup sup p).isSome then p else norm p

theorem denot_supplied {norm : String → String} {fs : FS} {sup : Supplied} {p : String} {c : FileContent}
    (h : supLookup sup p = some c) : denot norm fs sup p = some c := by simp [denot, h]

theorem denot_disk {norm : String → String} {fs : FS} {sup : Supplied} {p : String}
    (h : supLookup sup p = none) : denot norm fs sup p = lookup fs (norm p) := by simp [denot, h]

theorem entry_supplied {norm : String → String} {sup : Supplied} {p : String} {c : FileContent}
    (h : supLookup sup p = some c) : entry norm sup p = p := by simp [entry, h]

theorem entry_disk {norm : String → String} {sup : Supplied} {p : String}
    (h : supLookup sup p = none) : entry norm sup p = norm p := by simp [entry, h]

/-- `Reach norm fs sup steps q`: key `q` is referenced by a foreach step of `steps`, or of a file so referenced, … -/
inductive Reach (norm : String → String) (fs : FS) (sup : Supplied) : List Step → String → Prop where
  | direct {steps : List Step} {p : String} : p ∈ stepWorkflowPaths steps → Reach norm fs sup steps p
  | trans {steps sub : List Step} {p q : String} : p ∈ stepWorkflowPaths steps → denot norm fs sup p = some (.wf sub) →
      Reach norm fs sup sub q → Reach norm fs sup steps q

/-- the file `q` denotes is a workflow that transitively references itself (under some spelling) -/
def OnCycle (norm : String → String) (fs : FS) (sup : Supplied) (q : String) : Prop :=
  ∃ st, denot norm fs sup q = some (.wf st) ∧ ∃ q', Reach norm fs sup st q' ∧ entry norm sup q' = entry norm sup q

/-- `inCache` allows a supplied key: `Parse` merges the caller's cache over the returned one -/
structure Good (norm : String → String) (fs : FS) (sup : Supplied) (chain files : List String) (q : String) : Prop where
  inCache : (supLookup sup q).isSome ∨ q ∈ files
  notInChain : ¬ entry norm sup q ∈ chain
  converts : ∃ st, denot norm fs sup q = some (.wf st)
  acyclic : ¬ OnCycle norm fs sup q

theorem Good.mono {norm : String → String} {fs : FS} {sup : Supplied} {chain chain' files files' : List String} {q : String}
    (hf : ∀ x ∈ files, x ∈ files') (hc : ∀ x ∈ chain', x ∈ chain) (h : Good norm fs sup chain files q) :
    Good norm fs sup chain' files' q :=
  ⟨h.inCache.imp id (hf q), fun hq => h.notInChain (hc _ hq), h.converts, h.acyclic⟩

def Visitable (fs : FS) (sup : Supplied) (e : String) : Prop :=
  (∃ c, lookup fs e = some c) ∨ (∃ c, supLookup sup e = some c)

theorem measure_lt {fs : FS} {sup : Supplied} {chain : List String} {e : String} (hv : Visitable fs sup e)
    (hn : ¬ e ∈ chain) : measure fs sup (chain ++ [e]) < measure fs sup chain := by
  rcases hv with ⟨c, h⟩ | ⟨c, h⟩
  · exact measure_lt_disk h hn
  · exact measure_lt_supplied h hn

theorem denot_visitable {norm : String → String} {fs : FS} {sup : Supplied} {p : String} {c : FileContent}
    (h : denot norm fs sup p = some c) : Visitable fs sup (entry norm sup p) := by
  cases hs : supLookup sup p with
  | some c' =>
    rw [entry_supplied hs]
    exact Or.inr ⟨c', hs⟩
  | none =>
    rw [entry_disk hs]
    rw [denot_disk hs] at h
    exact Or.inl ⟨c, h⟩

/-- induction on chains by the termination measure, which also serves `checkCycles` (with `sup := none`) -/
theorem chain_induction {fs : FS} {sup : Supplied} {P : List String → Prop}
    (step : ∀ chain, (∀ e, Visitable fs sup e → ¬ e ∈ chain → P (chain ++ [e])) → P chain) (chain : List String) :
    P chain := by
  generalize hn : measure fs sup chain = n
  induction n using Nat.strongRecOn generalizing chain with
  | ind n ih => exact step chain fun e hv hc => ih _ (hn ▸ measure_lt hv hc) _ rfl

/-! In terms of `denot` and `entry` both loops of `subworkflowCache` do the same thing with a referenced key (`follow`): the
first for the keys the caller supplied, the second for the others. -/

section
variable {norm : String → String} {fs : FS} {sup : Supplied} {chain : List String}

def follow (norm : String → String) (fs : FS) (sup : Supplied) (chain : List String) (p : String)
    (acc : List (List String)) : Res :=
  if entry norm sup p ∈ chain then .error .cycle
  else match denot norm fs sup p with
    | none => .error .missing
    | some .invalid => .error .invalid
    | some (.wf sub) => subworkflowCache norm fs sup sub acc (chain ++ [entry norm sup p])

theorem follow_eq_ok {p : String} {acc : List (List String)} {fc : List String} :
    follow norm fs sup chain p acc = .ok fc ↔ ¬ entry norm sup p ∈ chain ∧ ∃ sub,
      denot norm fs sup p = some (.wf sub) ∧ subworkflowCache norm fs sup sub acc (chain ++ [entry norm sup p]) = .ok fc := by
  unfold follow
  by_cases hc : entry norm sup p ∈ chain
  · simp [hc]
  · rcases denot norm fs sup p with _ | _ | sub <;> simp [hc]

def followAll (call : String → List (List String) → Res) : List String → List (List String) → Outcome (List (List String))
  | [], acc => .ok acc
  | p :: rest, acc => (call p acc).bind fun fc => followAll call rest (acc ++ [fc])

theorem followAll_ok {call : String → List (List String) → Res} : ∀ {paths : List String} {acc caches : List (List String)},
    followAll call paths acc = .ok caches →
      (∀ c ∈ acc, c ∈ caches) ∧ ∀ p ∈ paths, ∃ acc' fc, call p acc' = .ok fc ∧ fc ∈ caches
  | [], acc, caches, h => by
    cases h
    exact ⟨fun _ hc => hc, fun _ h => nomatch h⟩
  | p :: rest, acc, caches, h => by
    obtain ⟨fc, hfc, hrest⟩ := Outcome.bind_eq_ok.mp h
    obtain ⟨hacc, hps⟩ := followAll_ok hrest
    refine ⟨fun c hc => hacc c (List.mem_append_left _ hc), List.forall_mem_cons.mpr ⟨?_, hps⟩⟩
    exact ⟨acc, fc, hfc, hacc fc (by simp)⟩

theorem followAll_complete {call : String → List (List String) → Res} : ∀ {paths : List String},
    (∀ p ∈ paths, ∀ acc, ∃ fc, call p acc = .ok fc) → ∀ acc, ∃ caches, followAll call paths acc = .ok caches
  | [], _, acc => ⟨acc, rfl⟩
  | p :: rest, h, acc => by
    obtain ⟨fc, hfc⟩ := h p (by simp) acc
    obtain ⟨caches, hc⟩ := followAll_complete (fun q hq => h q (List.mem_cons_of_mem _ hq)) (acc ++ [fc])
    exact ⟨caches, by simp only [followAll, hfc, Outcome.bind, hc]⟩

theorem followAll_ne_panic {call : String → List (List String) → Res} {s : String} (h : ∀ p acc, call p acc ≠ .panic s) :
    ∀ paths acc, followAll call paths acc ≠ .panic s
  | [], _ => nofun
  | p :: rest, acc => Outcome.bind_ne_panic (h p acc) fun _ => followAll_ne_panic h rest _

theorem loopSupplied_eq : ∀ (paths : List String) (acc : List (List String)),
    loopSupplied norm fs sup chain paths acc =
      followAll (follow norm fs sup chain) (paths.filter fun p => (supLookup sup p).isSome) acc
  | [], acc => loopSupplied_nil acc
  | p :: rest, acc => by
    rw [loopSupplied_cons]
    cases hs : supLookup sup p with
    | none => simpa [hs] using loopSupplied_eq rest acc
    | some c =>
      simp only [List.filter_cons, hs, Option.isSome_some, if_true, followAll, follow, entry_supplied hs, denot_supplied hs]
      cases c with
      | invalid => by_cases hc : p ∈ chain <;> simp [hc, Outcome.bind]
      | wf sub => by_cases hc : p ∈ chain <;> simp [hc, Outcome.bind, loopSupplied_eq rest]

theorem loopFiles_eq : ∀ (paths : List String) (acc : List (List String)), (∀ p ∈ paths, supLookup sup p = none) →
    loopFiles norm fs sup chain paths acc = followAll (follow norm fs sup chain) paths acc
  | [], acc, _ => loopFiles_nil acc
  | p :: rest, acc, h => by
    have hs := h p (by simp)
    have ih := fun acc => loopFiles_eq rest acc (fun q hq => h q (List.mem_cons_of_mem _ hq))
    rw [loopFiles_cons]
    simp only [followAll, follow, entry_disk hs, denot_disk hs]
    by_cases hc : norm p ∈ chain
    · simp [hc, Outcome.bind]
    · rcases lookup fs (norm p) with _ | _ | sub <;> simp [hc, Outcome.bind, ih]

theorem allPresent_iff {paths : List String} :
    allPresent norm fs paths = true ↔ ∀ p ∈ paths, ∃ c, lookup fs (norm p) = some c := by
  simp [allPresent, Option.isSome_iff_exists]

/-- no case for the shortcut of a workflow whose references are all supplied: it returns what the general case would -/
theorem subworkflowCache_follow (steps : List Step) (acc : List (List String)) :
    subworkflowCache norm fs sup steps acc chain =
      (followAll (follow norm fs sup chain) ((stepWorkflowPaths steps).filter fun p => (supLookup sup p).isSome) acc).bind
        fun flowCaches =>
          let rest := (stepWorkflowPaths steps).filter fun p => (supLookup sup p).isNone
          if allPresent norm fs rest then
            (followAll (follow norm fs sup chain) rest flowCaches).bind fun caches => .ok (caches ++ [rest]).flatten
          else .error .missing := by
  rw [subworkflowCache_eq, loopSupplied_eq]
  congr 1
  funext flowCaches
  dsimp only
  split
  · rename_i h
    simp [List.isEmpty_iff.mp h, allPresent, followAll, Outcome.bind]
  · rw [loopFiles_eq _ _ (fun p hp => by simpa using (List.mem_filter.mp hp).2)]

theorem subworkflowCache_ok {steps : List Step} {acc : List (List String)} {files : List String}
    (h : subworkflowCache norm fs sup steps acc chain = .ok files) : ∀ p ∈ stepWorkflowPaths steps,
      ((supLookup sup p).isSome ∨ p ∈ files) ∧
        ∃ acc' fc, follow norm fs sup chain p acc' = .ok fc ∧ ∀ x ∈ fc, x ∈ files := by
  rw [subworkflowCache_follow] at h
  obtain ⟨flowCaches, h₁, h⟩ := Outcome.bind_eq_ok.mp h
  dsimp only at h
  split at h
  · obtain ⟨caches, h₂, h⟩ := Outcome.bind_eq_ok.mp h
    cases h
    obtain ⟨_, hps₁⟩ := followAll_ok h₁
    obtain ⟨hacc₂, hps₂⟩ := followAll_ok h₂
    intro p hp
    cases hs : supLookup sup p with
    | some c =>
      obtain ⟨acc', fc, hfc, hmem⟩ := hps₁ p (List.mem_filter.mpr ⟨hp, by simp [hs]⟩)
      exact ⟨Or.inl rfl, acc', fc, hfc, fun x hx => List.mem_flatten.mpr ⟨fc, by simp [hacc₂ fc hmem], hx⟩⟩
    | none =>
      have hrest : p ∈ (stepWorkflowPaths steps).filter fun p => (supLookup sup p).isNone :=
        List.mem_filter.mpr ⟨hp, by simp [hs]⟩
      obtain ⟨acc', fc, hfc, hmem⟩ := hps₂ p hrest
      exact ⟨Or.inr (List.mem_flatten.mpr ⟨_, by simp, hrest⟩), acc', fc, hfc,
        fun x hx => List.mem_flatten.mpr ⟨fc, by simp [hmem], hx⟩⟩
  · cases h

theorem subworkflowCache_inv {steps : List Step} {acc : List (List String)} {files : List String}
    (h : subworkflowCache norm fs sup steps acc chain = .ok files) {q : String} (hq : Reach norm fs sup steps q) :
    Good norm fs sup chain files q := by
  induction chain using chain_induction (fs := fs) (sup := sup) generalizing steps acc files q with
  | step chain ih =>
    have key : ∀ p ∈ stepWorkflowPaths steps, ∃ sub, denot norm fs sup p = some (.wf sub) ∧
        ¬ entry norm sup p ∈ chain ∧ ((supLookup sup p).isSome ∨ p ∈ files) ∧
        ∀ q, Reach norm fs sup sub q → Good norm fs sup (chain ++ [entry norm sup p]) files q := by
      intro p hp
      obtain ⟨hin, acc', fc, hfc, hsub⟩ := subworkflowCache_ok h p hp
      obtain ⟨hnc, sub, hden, hcall⟩ := follow_eq_ok.mp hfc
      exact ⟨sub, hden, hnc, hin, fun q hq => (ih _ (denot_visitable hden) hnc hcall hq).mono hsub (fun _ => id)⟩
    cases hq with
    | direct hp =>
      obtain ⟨sub, hden, hnc, hin, hreach⟩ := key q hp
      refine ⟨hin, hnc, ⟨sub, hden⟩, ?_⟩
      -- a cycle through `q` reaches, below `q`, some `q'` with `entry q' = entry q`; the chain there already holds
      -- `entry q`, so `notInChain` of `q'` refutes it
      rintro ⟨st, hst, q', hcyc, hq'⟩
      cases hden.symm.trans hst
      exact (hreach q' hcyc).notInChain (by simp [hq'])
    | trans hp hden' hq' =>
      obtain ⟨sub, hden, _, _, hreach⟩ := key _ hp
      cases hden.symm.trans hden'
      exact (hreach q hq').mono (fun _ => id) (fun x hx => by simp [hx])

theorem subworkflowCache_no_panic (steps : List Step) (acc : List (List String)) (s : String) :
    subworkflowCache norm fs sup steps acc chain ≠ .panic s := by
  induction chain using chain_induction (fs := fs) (sup := sup) generalizing steps acc with
  | step chain ih =>
    have hf : ∀ p acc', follow norm fs sup chain p acc' ≠ .panic s := by
      intro p acc'
      unfold follow
      split
      · nofun
      next hnc =>
      split
      · nofun
      · nofun
      · next sub hden => exact ih _ (denot_visitable hden) hnc sub acc'
    rw [subworkflowCache_follow]
    refine Outcome.bind_ne_panic (followAll_ne_panic hf _ _) fun _ => ?_
    dsimp only
    split
    · exact Outcome.bind_ne_panic (followAll_ne_panic hf _ _) fun _ => nofun
    · nofun

theorem subworkflowCache_complete {steps : List Step} (acc : List (List String))
    (hgood : ∀ q, Reach norm fs sup steps q →
      (∃ st, denot norm fs sup q = some (.wf st)) ∧ ¬ entry norm sup q ∈ chain ∧ ¬ OnCycle norm fs sup q) :
    ∃ files, subworkflowCache norm fs sup steps acc chain = .ok files := by
  induction chain using chain_induction (fs := fs) (sup := sup) generalizing steps acc with
  | step chain ih =>
    have hcall : ∀ p ∈ stepWorkflowPaths steps, ∀ acc', ∃ fc, follow norm fs sup chain p acc' = .ok fc := by
      intro p hp acc'
      obtain ⟨⟨sub, hsub⟩, hnc, hncyc⟩ := hgood p (.direct hp)
      obtain ⟨fc, hfc⟩ := ih _ (denot_visitable hsub) hnc (steps := sub) acc' (fun q hq => by
        obtain ⟨hv, hqc, hqcyc⟩ := hgood q (.trans hp hsub hq)
        refine ⟨hv, fun hmem => ?_, hqcyc⟩
        rcases List.mem_append.mp hmem with h | h
        · exact hqc h
        · exact hncyc ⟨sub, hsub, q, hq, List.mem_singleton.mp h⟩)
      exact ⟨fc, follow_eq_ok.mpr ⟨hnc, sub, hsub, hfc⟩⟩
    rw [subworkflowCache_follow]
    obtain ⟨flowCaches, h₁⟩ := followAll_complete
      (paths := (stepWorkflowPaths steps).filter fun p => (supLookup sup p).isSome)
      (fun p hp => hcall p (List.mem_filter.mp hp).1) acc
    obtain ⟨caches, h₂⟩ := followAll_complete
      (paths := (stepWorkflowPaths steps).filter fun p => (supLookup sup p).isNone)
      (fun p hp => hcall p (List.mem_filter.mp hp).1) flowCaches
    have hpres : allPresent norm fs ((stepWorkflowPaths steps).filter fun p => (supLookup sup p).isNone) = true := by
      rw [allPresent_iff]
      intro p hp
      obtain ⟨hp, hs⟩ := List.mem_filter.mp hp
      obtain ⟨⟨st, hst⟩, _⟩ := hgood p (.direct hp)
      exact ⟨_, denot_disk (by simpa using hs) ▸ hst⟩
    simp only [h₁, Outcome.bind, hpres, if_true, h₂]
    exact ⟨_, rfl⟩

end

/-- key `q` is referenced, by key, from `steps` through the contents `ctx` (a key without content is not followed) -/
inductive KeyReach (ctx : FS) : List Step → String → Prop where
  | direct {steps : List Step} {p : String} : p ∈ stepWorkflowPaths steps → KeyReach ctx steps p
  | trans {steps sub : List Step} {p q : String} : p ∈ stepWorkflowPaths steps → lookup ctx p = some (.wf sub) →
      KeyReach ctx sub q → KeyReach ctx steps q

/-- the content of key `q` is a workflow that references key `q` again, directly or through other contents -/
def KeyOnCycle (ctx : FS) (q : String) : Prop := ∃ st, lookup ctx q = some (.wf st) ∧ KeyReach ctx st q

section
variable {ctx : FS} {chain : List String}

theorem loopCheck_ok_iff : ∀ {paths : List String}, loopCheck ctx chain paths = .ok () ↔
    ∀ p ∈ paths, ¬ p ∈ chain ∧ (lookup ctx p = none ∨
      ∃ sub, lookup ctx p = some (.wf sub) ∧ checkCycles ctx sub (chain ++ [p]) = .ok ())
  | [] => by simp [loopCheck_nil]
  | p :: rest => by
    rw [loopCheck_cons, List.forall_mem_cons, ← loopCheck_ok_iff (paths := rest)]
    by_cases hc : p ∈ chain
    · simp [hc]
    · rcases lookup ctx p with _ | _ | sub <;> simp [hc, Outcome.bind_eq_ok]
      -- left, wf case: `∃ u : Unit, checkCycles … = .ok u` against `checkCycles … = .ok ()`
      exact fun _ => ⟨fun ⟨_, h⟩ => h, fun h => ⟨_, h⟩⟩

theorem checkCycles_sound {steps : List Step} (h : checkCycles ctx steps chain = .ok ()) {q : String}
    (hq : KeyReach ctx steps q) : ¬ q ∈ chain ∧ ¬ KeyOnCycle ctx q := by
  induction chain using chain_induction (fs := ctx) (sup := none) generalizing steps q with
  | step chain ih =>
    rw [checkCycles_eq, loopCheck_ok_iff] at h
    have key : ∀ p ∈ stepWorkflowPaths steps, ∀ sub, lookup ctx p = some (.wf sub) →
        ∀ q, KeyReach ctx sub q → ¬ q ∈ chain ++ [p] ∧ ¬ KeyOnCycle ctx q := by
      intro p hp sub hl
      obtain ⟨hnc, hnone | ⟨sub', hl', hsub⟩⟩ := h p hp
      · cases hl.symm.trans hnone
      · cases hl.symm.trans hl'
        exact fun q hq => ih p (Or.inl ⟨_, hl⟩) hnc hsub hq
    cases hq with
    | direct hp =>
      refine ⟨(h q hp).1, ?_⟩
      rintro ⟨st, hst, hreach⟩  -- as in `subworkflowCache_inv`
      exact (key q hp st hst q hreach).1 (by simp)
    | trans hp hl hq' =>
      obtain ⟨h₁, h₂⟩ := key _ hp _ hl q hq'
      exact ⟨fun hm => h₁ (by simp [hm]), h₂⟩

theorem checkCycles_no_panic (steps : List Step) (s : String) : checkCycles ctx steps chain ≠ .panic s := by
  suffices h : (∀ steps chain s, checkCycles ctx steps chain ≠ .panic s) ∧
      (∀ chain paths s, loopCheck ctx chain paths ≠ .panic s) from h.1 steps chain s
  apply checkCycles.mutual_induct ctx <;> intros <;> simp_all [checkCycles_eq, Outcome.bind]

theorem checkCycles_complete {steps : List Step}
    (hgood : ∀ q, KeyReach ctx steps q → ¬ q ∈ chain ∧ lookup ctx q ≠ some .invalid ∧ ¬ KeyOnCycle ctx q) :
    checkCycles ctx steps chain = .ok () := by
  induction chain using chain_induction (fs := ctx) (sup := none) generalizing steps with
  | step chain ih =>
    rw [checkCycles_eq, loopCheck_ok_iff]
    intro p hp
    obtain ⟨hnc, hninv, hncyc⟩ := hgood p (.direct hp)
    refine ⟨hnc, ?_⟩
    rcases hl : lookup ctx p with _ | _ | sub
    · exact Or.inl rfl
    · exact absurd hl hninv
    · refine Or.inr ⟨sub, rfl, ih p (Or.inl ⟨_, hl⟩) hnc fun q hq => ?_⟩
      obtain ⟨hqc, hqi, hqcyc⟩ := hgood q (.trans hp hl hq)
      refine ⟨fun hmem => ?_, hqi, hqcyc⟩
      rcases List.mem_append.mp hmem with h | h
      · exact hqc h
      · cases List.mem_singleton.mp h
        exact hncyc ⟨sub, hl, hq⟩

end

theorem lookup_append (a b : FS) (p : String) : lookup (a ++ b) p = (lookup a p).or (lookup b p) := by
  induction a with
  | nil => rfl
  | cons x xs ih => grind [lookup]

theorem lookup_filterMap_some {norm : String → String} {fs : FS} {keys : List String} {p : String} {c : FileContent}
    (h : lookup (keys.filterMap (fun k => (lookup fs (norm k)).map (fun c => (k, c)))) p = some c) :
    lookup fs (norm p) = some c := by
  induction keys with
  | nil => cases h
  | cons k ks ih => cases hk : lookup fs (norm k) <;> grind [lookup]

theorem merged_denot {norm : String → String} {fs files : FS} {keys : List String} {p : String} {c : FileContent}
    (h : lookup (mergedContents norm fs files keys) p = some c) : denot norm fs (some files) p = some c := by
  rw [mergedContents, lookup_append] at h
  unfold denot supLookup
  cases hf : lookup files p with
  | some c' => simpa [hf] using h
  | none => simpa [hf] using lookup_filterMap_some (by simpa [hf] using h)

theorem keyReach_reach {norm : String → String} {fs files : FS} {keys : List String} {steps : List Step} {q : String}
    (h : KeyReach (mergedContents norm fs files keys) steps q) : Reach norm fs (some files) steps q := by
  induction h with
  | direct hp => exact .direct hp
  | trans hp hl _ ih => exact .trans hp (merged_denot hl) ih

theorem parseFiles_eq_ok {norm : String → String} {fs files : FS} {root : String} {ks : List String} :
    parseFiles norm fs files root = .ok ks ↔ ∃ steps keys, lookup files root = some (.wf steps) ∧
      subworkflowCache norm fs (some files) steps [] [] = .ok keys ∧
      checkCycles (mergedContents norm fs files keys) steps [] = .ok () ∧ keys ++ files.map Prod.fst = ks := by
  unfold parseFiles
  repeat' split
  all_goals simp_all

end Arca.Model.SubWf
