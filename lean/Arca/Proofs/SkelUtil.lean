/-
The kernel has no string operations: it turns a literal into the list of its UTF-8 bytes (`bytes`) by appending byte after
byte, so reading a literal is quadratic in its length; it does so once per declaration, and literals that begin alike
share the work.  `==` walks the common prefix of two lists for every pair asked about; whatever goes through characters
(`toList`, `length`, `startsWith`) decodes the bytes again and is far dearer still.  Hence, before `decide +kernel`:
facts about the same strings go into ONE declaration; a fact that reads characters: `simp only [toList_eq_chars]`;
`Arca.Model.Skel.startsWith`: `rw [startsWith_eq_bytes]`; a few names with long common prefixes compared many times:
`simp only [beq_eq_code]` or `code_inj` (each name becomes one number; dearer where most comparisons fail at once, since
every string is read to its end); literal data against literal data: `rfl`.
-/
import Arca.Model.SkelUtil

namespace Arca.Proofs.SkelUtil
open Arca.Model.Skel

def bytes (s : String) : List UInt8 := s.toByteArray.data.toList

theorem bytes_inj {s t : String} (h : bytes s = bytes t) : s = t :=
  String.toByteArray_inj.mp (ByteArray.ext (Array.toList_inj.mp h))

theorem bytes_append (s t : String) : bytes (s ++ t) = bytes s ++ bytes t := by
  simp [bytes, String.toByteArray_append]

theorem bytes_eq_flatMap (s : String) : bytes s = s.toList.flatMap String.utf8EncodeChar := by
  conv => lhs; rw [← String.ofList_toList (s := s), bytes, String.toByteArray_ofList, List.utf8Encode,
    List.toList_data_toByteArray]

/-- the first byte of a longer encoding has its high bit set -/
theorem encodeChar_ascii {c : Char} (h : (String.utf8EncodeChar c).all (fun b => b.toNat < 128) = true) :
    (String.utf8EncodeChar c).map (fun b => Char.ofNat b.toNat) = [c] := by
  unfold String.utf8EncodeChar at h ⊢
  simp only at h ⊢
  split at h
  · next hv =>
    rw [if_pos hv, List.map_cons, List.map_nil, UInt8.toNat_ofNat', Nat.mod_eq_of_lt (by omega)]
    exact congrArg (· :: []) (Char.ofNat_toNat c)
  · exfalso
    split at h
    · simp only [List.all_cons, Bool.and_eq_true, decide_eq_true_eq, UInt8.toNat_ofNat'] at h; omega
    · split at h <;> simp only [List.all_cons, Bool.and_eq_true, decide_eq_true_eq, UInt8.toNat_ofNat'] at h <;> omega

theorem encode_ascii (cs : List Char) (h : (cs.flatMap String.utf8EncodeChar).all (fun b => b.toNat < 128) = true) :
    (cs.flatMap String.utf8EncodeChar).map (fun b => Char.ofNat b.toNat) = cs := by
  induction cs with
  | nil => rfl
  | cons c cs ih =>
    rw [List.flatMap_cons, List.all_append, Bool.and_eq_true] at h
    rw [List.flatMap_cons, List.map_append, encodeChar_ascii h.1, ih h.2]; rfl

def chars (s : String) : List Char :=
  if (bytes s).all (fun b => b.toNat < 128) then (bytes s).map fun b => Char.ofNat b.toNat else s.toList

theorem toList_eq_chars (s : String) : s.toList = chars s := by
  unfold chars
  split
  · next h => rw [bytes_eq_flatMap] at h ⊢; exact (encode_ascii _ h).symm
  · rfl

theorem startsWith_eq_bytes : startsWith = fun s t => (bytes s).isPrefixOf (bytes t) := by
  funext s t
  rw [Bool.eq_iff_iff, startsWith, List.isPrefixOf_iff_prefix, List.isPrefixOf_iff_prefix]
  constructor
  · rintro ⟨r, hr⟩
    refine ⟨bytes (String.ofList r), ?_⟩
    rw [← bytes_append, ← String.ofList_toList (s := t), ← hr, String.ofList_append, String.ofList_toList]
  · rintro ⟨l, hl⟩
    apply List.isPrefix_of_utf8Encode_append_eq_utf8Encode ⟨l.toArray⟩
    rw [← String.toByteArray_ofList, ← String.toByteArray_ofList, String.ofList_toList, String.ofList_toList]
    apply ByteArray.ext
    simpa [bytes, ← Array.toList_inj] using hl

/-- under a leading 1: without it trailing zero bytes would vanish and the map would not be injective -/
def digits (l : List UInt8) : Nat := l.foldr (fun b a => a * 256 + b.toNat) 1

def code (s : String) : Nat := digits (bytes s)

theorem digits_nil : digits [] = 1 := rfl

theorem digits_cons (b : UInt8) (l : List UInt8) : digits (b :: l) = digits l * 256 + b.toNat := rfl

theorem digits_pos (l : List UInt8) : 0 < digits l := by
  induction l with
  | nil => decide
  | cons b l ih => rw [digits_cons]; omega

theorem digits_inj : ∀ {l₁ l₂ : List UInt8}, digits l₁ = digits l₂ → l₁ = l₂
  | [], [], _ => rfl
  | [], _ :: l, h | _ :: l, [], h => by
    have := digits_pos l
    rw [digits_cons, digits_nil] at h
    omega
  | b :: l, b' :: l', h => by
    have := b.toNat_lt
    have := b'.toNat_lt
    rw [digits_cons, digits_cons] at h
    obtain ⟨hl, hb⟩ : digits l = digits l' ∧ b.toNat = b'.toNat := by omega
    rw [digits_inj hl, UInt8.toNat_inj.mp hb]

theorem code_inj (s t : String) (h : code s = code t) : s = t := bytes_inj (digits_inj h)

theorem beq_eq_code (s t : String) : (s == t) = (code s == code t) := by
  rw [Bool.eq_iff_iff, beq_iff_eq, beq_iff_eq]
  exact ⟨fun h => h ▸ rfl, code_inj s t⟩

end Arca.Proofs.SkelUtil
