/-
The foreach item pool cannot get stuck: a measure every transition lowers, progress, a completing schedule; and with
nothing queued no item run begins (the close of a loop whose queued items are parked).
-/
import Arca.Proofs.ForeachInv

namespace Arca.Model.ForeachPool

variable {α β : Type}

theorem step_of_enabled {P : Pool α β} {s : PoolState α β} (hI : Inv P s) {t : Tr} (h : enabled P s t) :
    ∃ s', step P s t = some s' := by
  cases t with
  | acquire i => simp [step, List.getElem?_eq_getElem (lt_of_phase hI h.1), show acquireOk P s i from h]
  | finish i => simp [step, List.getElem?_eq_getElem (lt_of_phase hI h.1), show finishOk s i from h]
  | cancel => simp [step, show s.cancelled = false from h]
  | abort i => simp [step, show abortOk s i from h]

theorem measure_step {P : Pool α β} {s s' : PoolState α β} {t : Tr} (h : step P s t = some s') :
    measure s' < measure s := by
  -- an item moves from phase `a` to a phase of smaller weight (pending 2, running 1, done and aborted 0)
  have move : ∀ {i : Nat} {a : Phase} (b : Phase), s.phase[i]? = some a →
      (s.phase.set i b).countP isPending + (if isPending a then 1 else 0) =
        s.phase.countP isPending + (if isPending b then 1 else 0) ∧
      (s.phase.set i b).countP isRunning + (if isRunning a then 1 else 0) =
        s.phase.countP isRunning + (if isRunning b then 1 else 0) :=
    fun _ h => ⟨countP_set_of_getElem? h, countP_set_of_getElem? h⟩
  refine step_cases h (fun i a _ hok => ?_) (fun i a _ hok => ?_) (fun hc => ?_) (fun i hok => ?_) <;>
    simp only [measure, running, pendingCount, store_cancelled]
  · have := move .running hok.1; simp [isRunning, isPending] at this; omega
  · have := move .done hok.1; simp [isRunning, isPending] at this; omega
  · simp [hc]
  · have := move .aborted hok.1; simp [isRunning, isPending] at this; omega

theorem measure_runSched {P : Pool α β} {s s' : PoolState α β} {sched : List Tr}
    (h : runSched P s sched = some s') : sched.length + measure s' ≤ measure s := by
  refine runSched_induction (motive := fun s sched => sched.length + measure s' ≤ measure s) (by simp) ?_ h
  intro s s₁ t ts h₁ _ ih
  have := measure_step h₁
  simp only [List.length_cons]; omega

/-- A running item can always finish (it holds a token, so its `<-sem` never blocks); if nothing is running, a pending
    item can take a slot (or leave, if cancelled). -/
theorem progress {P : Pool α β} {s : PoolState α β} (hp : 1 ≤ P.p) (hI : Inv P s) (hnd : allDone s = false) :
    ∃ t s', t ≠ Tr.cancel ∧ step P s t = some s' := by
  have fires : ∀ t, t ≠ Tr.cancel → enabled P s t → ∃ t s', t ≠ Tr.cancel ∧ step P s t = some s' :=
    fun t ht h => (step_of_enabled hI h).elim fun s' hs' => ⟨t, s', ht, hs'⟩
  have hrs := hI.semRunning
  by_cases hr : 0 < running s
  · obtain ⟨ph, hm, hrun⟩ := List.countP_pos_iff.mp hr
    obtain ⟨i, hph⟩ := List.getElem?_of_mem hm
    obtain rfl : ph = .running := by cases ph <;> simp [isRunning] at hrun; rfl
    exact fires (.finish i) (fun h => nomatch h) ⟨hph, by omega⟩
  · -- some item is not final, and it is not running: it is pending
    obtain ⟨ph, hm, hf⟩ := List.all_eq_false.mp hnd
    obtain ⟨i, hph⟩ := List.getElem?_of_mem hm
    obtain rfl : ph = .pending := by
      cases ph <;> simp [isFinal] at hf
      · rfl
      · exact absurd (List.countP_pos_iff.mpr ⟨.running, hm, rfl⟩) hr
    cases hc : s.cancelled
    · exact fires (.acquire i) (fun h => nomatch h) ⟨hph, by omega⟩
    · exact fires (.abort i) (fun h => nomatch h) ⟨hph, hc⟩

theorem exists_completion {P : Pool α β} (hp : 1 ≤ P.p) {s : PoolState α β} (hI : Inv P s) :
    ∃ sched s', (∀ t ∈ sched, t ≠ Tr.cancel) ∧ runSched P s sched = some s' ∧ allDone s' = true := by
  cases hd : allDone s
  · obtain ⟨t, s₁, hne, h₁⟩ := progress hp hI hd
    obtain ⟨sched, s', hnc, hrun, hdone⟩ := exists_completion hp (inv_step hI h₁)
    exact ⟨t :: sched, s', List.forall_mem_cons.2 ⟨hne, hnc⟩, by simp only [runSched, h₁, hrun], hdone⟩
  · exact ⟨[], s, by simp, rfl, hd⟩
termination_by measure s
decreasing_by exact measure_step h₁

theorem pendingCount_step {P : Pool α β} {s s' : PoolState α β} {t : Tr} (h : step P s t = some s') :
    pendingCount s' ≤ pendingCount s := by
  have move : ∀ {i : Nat} {a : Phase} (b : Phase), s.phase[i]? = some a → isPending b = false →
      (s.phase.set i b).countP isPending ≤ s.phase.countP isPending := by
    intro i a b hph hb
    have := countP_set_of_getElem? (p := isPending) (b := b) hph
    rw [hb] at this
    simp only [Bool.false_eq_true, if_false, Nat.add_zero] at this
    omega
  refine step_cases h ?_ ?_ ?_ ?_ <;> intros <;> simp only [pendingCount, Nat.le_refl]
  · exact move .running (‹acquireOk P s _›).1 rfl
  · exact move .done (‹finishOk s _›).1 rfl
  · exact move .aborted (‹abortOk s _›).1 rfl

theorem no_acquire_of_no_pending {P : Pool α β} {s s' : PoolState α β} {i : Nat} (hq : pendingCount s = 0)
    (h : step P s (.acquire i) = some s') : False := by
  have hok : acquireOk P s i := enabled_of_step h
  have : 0 < s.phase.countP isPending := List.countP_pos_iff.mpr ⟨.pending, List.mem_of_getElem? hok.1, rfl⟩
  rw [pendingCount] at hq
  omega

theorem no_acquire_runSched {P : Pool α β} {s s' : PoolState α β} {rest : List Tr} (hq : pendingCount s = 0)
    (h : runSched P s rest = some s') : ∀ i, Tr.acquire i ∉ rest := by
  refine runSched_induction (motive := fun s rest => pendingCount s = 0 → ∀ i, Tr.acquire i ∉ rest)
    (fun _ _ hi => nomatch hi) ?_ h hq
  intro s s₁ t ts h₁ _ ih hq i hi
  rcases List.mem_cons.mp hi with rfl | hmem
  · exact no_acquire_of_no_pending hq h₁
  · exact ih (by have := pendingCount_step h₁; omega) i hmem

end Arca.Model.ForeachPool
