/-
The fuel `edges.length + 1` of `resolve` is never exhausted: (number of pending messages) + (number of edges whose
source is still `waiting`) decreases by exactly one with every handled message (a node that newly turns unresolvable
stops being `waiting` and sends exactly one message per outgoing edge).  With `Graph.Aux`, the pending messages
distinct and outstanding (`Graph.Pend`) and resolved nodes closed (`Graph.RClosed`) every `depResolved` succeeds.
-/
import Arca.Proofs.DgraphInv

set_option linter.unusedSectionVars false

namespace Arca.Model

variable {ι : Type} [DecidableEq ι]

def Graph.wcount (g : Graph ι) : Nat :=
  g.edges.countP (fun e => decide (g.statusOf e.1 = some St.waiting))

theorem Graph.statusOf_replace {g : Graph ι} {t : ι} {n n' : Node ι} (hn : g.find? t = some n) (hid : n'.id = t)
    (r' : List ι) (x : ι) :
    Graph.statusOf { g.setNode n' with ready := r' } x = if x = t then some n'.status else g.statusOf x :=
  (congrArg (Option.map Node.status) (Graph.find?_setNode_eq hn hid x)).trans (apply_ite _ _ _ _)

theorem Graph.wcount_same {g : Graph ι} {t : ι} {n n' : Node ι} (hn : g.find? t = some n) (hid : n'.id = t)
    (r' : List ι) (hs : n'.status = n.status) :
    Graph.wcount { g.setNode n' with ready := r' } = g.wcount := by
  refine List.countP_congr fun e _ => ?_
  rw [Graph.statusOf_replace hn hid r']
  split
  · next h => rw [h, hs, Graph.statusOf, hn]; rfl
  · rfl

theorem Graph.wcount_settle {g : Graph ι} {t : ι} {n n' : Node ι} (hn : g.find? t = some n) (hid : n'.id = t)
    (r' : List ι) (hw : n.status = St.waiting) (hs : n'.status ≠ St.waiting) :
    Graph.wcount { g.setNode n' with ready := r' } + (g.succs t).length = g.wcount := by
  have ht : g.statusOf t = some St.waiting := by rw [Graph.statusOf, hn, ← hw]; rfl
  rw [Graph.succs, List.length_map, ← List.countP_eq_length_filter, Nat.add_comm]
  refine .trans ?_ (List.countP_eq_countP_filter_add _ _ (fun e => decide (e.1 = t))).symm
  rw [List.countP_filter, List.countP_filter]
  congr 1 <;> refine List.countP_congr fun e _ => ?_
  · by_cases h : e.1 = t
    · simp [h, ht]
    · simp [h]
  · show _ ↔ (_ && _) = true
    rw [Graph.statusOf_replace hn hid r']
    by_cases h : e.1 = t
    · simp [h, hs]
    · simp [h]

theorem Graph.depResolved_wcount {g g' : Graph ι} {t s : ι} {st : St} {turned : Bool}
    (h : g.depResolved t s st = .ok (g', turned)) :
    g'.wcount + (if turned then (g'.succs t).length else 0) = g.wcount := by
  obtain ⟨n, dt, n', r', hn, _, _, rfl, hstep⟩ := Graph.depResolved_ok h
  obtain ⟨hid, _, _, hstatus⟩ := hstep.facts
  have hnid : n.id = t := (Graph.find?_some hn).2
  rcases hstatus with ⟨rfl, hs⟩ | ⟨rfl, hw, hu⟩
  · exact Graph.wcount_same hn (hid.trans hnid) r' hs
  · exact Graph.wcount_settle hn (hid.trans hnid) r' hw (by rw [hu]; nofun)

/-- with enough fuel a propagation fails only where a `depResolved` fails -/
theorem Graph.propagate_error {P : Graph ι → List (ι × ι × St) → Prop}
    (step : ∀ {g g1 : Graph ι} {t s : ι} {st : St} {turned : Bool} {rest : List (ι × ι × St)},
      P g ((t, s, st) :: rest) → g.depResolved t s st = .ok (g1, turned) →
      P g1 ((if turned then (g1.succs t).map (fun c => (c, t, St.unres)) else []) ++ rest))
    {f : Nat} {g : Graph ι} {msgs : List (ι × ι × St)} {e : DgErr ι} (h : P g msgs)
    (hf : msgs.length + g.wcount ≤ f) (hp : Graph.propagate f g msgs = .error e) :
    ∃ g1 t s st rest, P g1 ((t, s, st) :: rest) ∧ g1.depResolved t s st = .error e := by
  induction f generalizing g msgs with
  | zero =>
    cases msgs with
    | nil => cases hp
    | cons x rest => exact absurd hf (by simp)
  | succ f ih =>
    cases msgs with
    | nil => cases hp
    | cons x rest =>
      obtain ⟨t, s, st⟩ := x
      simp only [Graph.propagate] at hp
      split at hp
      · next e' he => cases hp; exact ⟨g, t, s, st, rest, h, he⟩
      · next g1 turned hd =>
        refine ih (step h hd) ?_ hp
        have := Graph.depResolved_wcount hd
        rw [List.length_cons] at hf
        cases turned
        · simp only [Bool.false_eq_true, ↓reduceIte, List.nil_append, Nat.add_zero] at this ⊢
          omega
        · simp only [↓reduceIte, List.length_append, List.length_map] at this ⊢
          omega

theorem Graph.resolve_fuel {g : Graph ι} {id : ι} {n : Node ι} {st : St} (hn : g.find? id = some n)
    (hw : n.status = St.waiting) (hst : st ≠ St.waiting) :
    ((g.succs id).map (fun t => (t, id, st))).length + (g.setNode { n with status := st }).wcount ≤
      g.edges.length + 1 := by
  have := Graph.wcount_settle (n' := { n with status := st }) hn (Graph.find?_some hn).2 g.ready hw hst
  have hle : g.wcount ≤ g.edges.length := List.countP_le_length
  rw [List.length_map]
  show _ + Graph.wcount { g.setNode { n with status := st } with ready := g.ready } ≤ _
  omega

theorem Graph.resolve_ne_fuel (g : Graph ι) (id : ι) (st : St) : g.resolve id st ≠ .error DgErr.fuel := by
  intro h
  cases hn : g.find? id with
  | none => rw [Graph.resolve_notFound hn] at h; cases h
  | some n =>
    cases hs : n.status with
    | resolved => rw [Graph.resolve_resolved hn hs] at h; cases h
    | unres => rw [Graph.resolve_unres hn hs] at h; split at h <;> cases h
    | waiting =>
      by_cases hst : st = .waiting
      · simp only [Graph.resolve, hn, hs, hst, if_true] at h; cases h
      · rw [Graph.resolve_waiting hn hs hst] at h
        obtain ⟨g1, t, s, st', _, _, he⟩ := Graph.propagate_error (P := fun _ _ => True) (fun _ _ => trivial)
          trivial (Graph.resolve_fuel hn hs hst) h
        exact Graph.depResolved_ne_fuel _ _ _ _ he

def Graph.RClosed (g : Graph ι) : Prop :=
  ∀ x n, g.find? x = some n → n.status = St.resolved →
    (∀ ed ∈ g.edges, ed.2.1 = x → ed.2.2 = Dep.and → ∃ m, g.find? ed.1 = some m ∧ m.status = St.resolved) ∧
    ((∃ ed ∈ g.edges, ed.2.1 = x ∧ ed.2.2 = Dep.or) → ∃ q ∈ n.res, q.2 = Dep.or)

structure Graph.Pend (g : Graph ι) (msgs : List (ι × ι × St)) : Prop where
  nodup : (msgs.map (fun x => (x.1, x.2.1))).Nodup
  out : ∀ x ∈ msgs, ∃ n, g.find? x.1 = some n ∧ x.2.1 ∈ keys n.out

theorem Graph.nodup_succs_msgs (g : Graph ι) (t : ι) (st : St) (h : (g.edges.map (fun e => (e.1, e.2.1))).Nodup) :
    (((g.succs t).map (fun c => (c, t, st))).map (fun x => (x.1, x.2.1))).Nodup := by
  rw [Graph.succs, List.map_map, List.map_map]
  refine List.pairwise_map.2 (((List.pairwise_map.1 h).filter _).imp_of_mem fun ha hb hne heq => hne ?_)
  rw [of_decide_eq_true (List.mem_filter.1 ha).2, of_decide_eq_true (List.mem_filter.1 hb).2]
  exact congrArg (Prod.mk t) (Prod.mk.inj heq).1

theorem Graph.RClosed.of_keeps {g g' : Graph ι} (hc : g.RClosed) (hk : g.Keeps g') : g'.RClosed := by
  intro x n' hn' hs'
  obtain ⟨n, hn, hs⟩ := hk.resolved hn' hs'
  obtain ⟨hand, hor⟩ := hc x n hn hs
  refine ⟨fun ed he h1 h2 => ?_, fun hex => ?_⟩
  · obtain ⟨m, hm, hmr⟩ := hand ed (hk.edges ▸ he) h1 h2
    obtain ⟨m', hm', hms'⟩ := hk.status hm (by rw [hmr]; nofun)
    exact ⟨m', hm', hms'.trans hmr⟩
  · obtain ⟨q, hq, hq2⟩ := hor (hk.edges ▸ hex)
    exact ⟨q, hk.res hn hn' q hq, hq2⟩

theorem Graph.RClosed.depResolved {g g' : Graph ι} {t s : ι} {st : St} {turned : Bool} (hc : g.RClosed)
    (h : g.depResolved t s st = .ok (g', turned)) : g'.RClosed :=
  hc.of_keeps (Graph.depResolved_keeps h)

theorem Graph.RClosed.setStatus {g : Graph ι} (hc : g.RClosed) {id : ι} {n : Node ι} {st : St}
    (hn : g.find? id = some n) (hs : n.status = .waiting ∨ n.status = st)
    (hid : st = St.resolved →
      (∀ ed ∈ g.edges, ed.2.1 = id → ed.2.2 = Dep.and → ∃ m, g.find? ed.1 = some m ∧ m.status = St.resolved) ∧
      ((∃ ed ∈ g.edges, ed.2.1 = id ∧ ed.2.2 = Dep.or) → ∃ q ∈ n.res, q.2 = Dep.or)) :
    (g.setNode { n with status := st }).RClosed := by
  have hf := Graph.find?_setStatus hn st
  have hsrc : ∀ a m, g.find? a = some m → m.status = St.resolved →
      ∃ m', (g.setNode { n with status := st }).find? a = some m' ∧ m'.status = St.resolved := by
    intro a m hm hmr
    rw [hf]
    split
    · next ha =>
      cases Graph.find?_unique hn (ha ▸ hm)
      exact ⟨_, rfl, (hs.resolve_left (by rw [hmr]; nofun)).symm.trans hmr⟩
    · exact ⟨m, hm, hmr⟩
  intro x m1 hm1 hs1
  rw [hf] at hm1
  have hcl : (∀ ed ∈ g.edges, ed.2.1 = x → ed.2.2 = Dep.and → ∃ m, g.find? ed.1 = some m ∧ m.status = St.resolved) ∧
      ((∃ ed ∈ g.edges, ed.2.1 = x ∧ ed.2.2 = Dep.or) → ∃ q ∈ m1.res, q.2 = Dep.or) := by
    split at hm1
    · next hx => cases hm1; exact hx ▸ hid hs1
    · exact hc x m1 hm1 hs1
  exact ⟨fun ed he h1 h2 => (hcl.1 ed he h1 h2).elim fun m hm => hsrc _ m hm.1 hm.2, hcl.2⟩

theorem Graph.depResolved_succeeds {g : Graph ι} {t s : ι} {st : St} {rest : List (ι × ι × St)}
    (ha : g.Aux ((t, s, st) :: rest)) (hp : g.Pend ((t, s, st) :: rest)) (hc : g.RClosed) :
    ∃ g1 turned, g.depResolved t s st = .ok (g1, turned) := by
  obtain ⟨n, hn, hsk⟩ := hp.out _ List.mem_cons_self
  obtain ⟨hstw, ms, hms, hmss⟩ := ha.msg_st _ List.mem_cons_self
  obtain ⟨dt, hdt⟩ := alookup_of_mem_keys hsk
  rcases Graph.depResolved_of hn hstw hdt with ⟨_, _, _, _, heq⟩ | ⟨hu, hsr, hdd, _⟩
  · exact ⟨_, _, heq⟩
  -- the only possible failure, turning a resolved node unresolvable, contradicts the closure of resolved nodes
  exfalso
  have hsm : (s, dt) ∈ n.out := alookup_some_mem hdt
  have hnode := ha.node_ok t n hn
  obtain ⟨hand, hor⟩ := hc t n hn hsr
  obtain ⟨d, hd, hok⟩ := hnode.out_edge _ hsm
  rw [(Graph.find?_some hn).2] at hd
  rcases hdd with rfl | ⟨rfl, _⟩
  · obtain rfl : d = Dep.and := entryOk_left hok nofun
    obtain ⟨m, hm, hmr⟩ := hand _ hd rfl rfl
    cases Graph.find?_unique hms hm
    exact absurd (hmr.symm.trans (hmss.trans hu)) nofun
  · obtain rfl : d = Dep.or := entryOk_left hok nofun
    obtain ⟨q, hq, hq2⟩ := hor ⟨_, hd, rfl, rfl⟩
    exact hnode.or_excl ⟨q, hq, hq2⟩ _ hsm rfl

theorem Graph.Pend.depResolved {g g1 : Graph ι} {t s : ι} {st : St} {turned : Bool} {rest : List (ι × ι × St)}
    (ha : g.Aux ((t, s, st) :: rest)) (hp : g.Pend ((t, s, st) :: rest))
    (h : g.depResolved t s st = .ok (g1, turned)) :
    g1.Pend ((if turned then (g1.succs t).map (fun c => (c, t, St.unres)) else []) ++ rest) := by
  obtain ⟨n, dt, n', r', hn, hst, hdt, rfl, hstep⟩ := Graph.depResolved_ok h
  obtain ⟨_, _, _, hstatus⟩ := hstep.facts
  have hf := hstep.find? hn
  obtain ⟨hstw, ms, hms, hmss⟩ := ha.msg_st _ List.mem_cons_self
  have hnd := hp.nodup
  rw [List.map_cons, List.nodup_cons] at hnd
  have hkeep : ∀ c a k, g.find? c = some k → a ∈ keys k.out → (c = t → a ≠ s) →
      ∃ k', Graph.find? { g.setNode n' with ready := r' } c = some k' ∧ a ∈ keys k'.out := by
    intro c a k hk hin hne
    rw [hf]
    split
    · next hct =>
      cases Graph.find?_unique hn (hct ▸ hk)
      exact ⟨n', rfl, hstep.mem_out.2 ⟨hin, hne hct⟩⟩
    · exact ⟨k, hk, hin⟩
  have hrest : ∀ x ∈ rest, ∃ k, Graph.find? { g.setNode n' with ready := r' } x.1 = some k ∧ x.2.1 ∈ keys k.out := by
    intro x hx
    obtain ⟨k, hk, hin⟩ := hp.out x (List.mem_cons_of_mem _ hx)
    exact hkeep _ _ k hk hin fun hxt hxs => hnd.1 (List.mem_map.2 ⟨x, hx, by rw [hxt, hxs]⟩)
  rcases hstatus with ⟨rfl, _⟩ | ⟨rfl, hw, _⟩
  · exact ⟨hnd.2, hrest⟩
  -- `t` newly turned unresolvable: it was waiting, so no message from it is pending and its successors list it
  have hnot : ∀ x ∈ (t, s, st) :: rest, x.2.1 ≠ t := by
    intro x hx hxt
    obtain ⟨h1, m0, hm0, hm0s⟩ := ha.msg_st x hx
    cases Graph.find?_unique hn (hxt ▸ hm0)
    exact h1 (hm0s.symm.trans hw)
  constructor
  · rw [if_pos rfl, List.map_append, List.nodup_append]
    refine ⟨Graph.nodup_succs_msgs g t _ ha.edges_nodup, hnd.2, ?_⟩
    intro a ha' b hb hab
    obtain ⟨_, hc, rfl⟩ := List.mem_map.1 ha'
    obtain ⟨c, _, rfl⟩ := List.mem_map.1 hc
    obtain ⟨x, hx, rfl⟩ := List.mem_map.1 hb
    exact hnot x (List.mem_cons_of_mem _ hx) (Prod.mk.inj hab).2.symm
  · intro x hx
    rcases List.mem_append.1 hx with hx | hx
    · obtain ⟨c, hc, rfl⟩ := List.mem_map.1 hx
      obtain ⟨d, hd⟩ := Graph.mem_succs.1 (show c ∈ g.succs t from hc)
      obtain ⟨k, hk⟩ := Graph.has_iff.1 (ha.edge_nodes _ hd).2
      exact hkeep c t k hk (ha.e_wait _ hd n k hn hk hw) fun _ hts => hnot _ List.mem_cons_self hts.symm
    · exact hrest x hx

theorem Graph.resolve_ok {g : Graph ι} (h : g.Inv) (hc : g.RClosed) {id : ι} {n : Node ι} (st : St)
    (hn : g.find? id = some n) (hw : n.status = St.waiting) (hst : st ≠ St.waiting)
    (hid : st = St.resolved →
      (∀ ed ∈ g.edges, ed.2.1 = id → ed.2.2 = Dep.and → ∃ m, g.find? ed.1 = some m ∧ m.status = St.resolved) ∧
      ((∃ ed ∈ g.edges, ed.2.1 = id ∧ ed.2.2 = Dep.or) → ∃ q ∈ n.res, q.2 = Dep.or)) :
    ∃ g', g.resolve id st = .ok g' ∧ g'.RClosed := by
  have ha := h.setStatus hn hw hst
  have hp : (g.setNode { n with status := st }).Pend ((g.succs id).map (fun c => (c, id, st))) := by
    refine ⟨Graph.nodup_succs_msgs g id st h.edges_nodup, fun x hx => ?_⟩
    obtain ⟨c, hc', rfl⟩ := List.mem_map.1 hx
    obtain ⟨d, hd⟩ := Graph.mem_succs.1 hc'
    obtain ⟨k, hk⟩ := Graph.has_iff.1 (h.edge_nodes _ hd).2
    have hin : id ∈ keys k.out := (h.src_waiting _ hd n k hn hk hw).1
    rw [Graph.find?_setStatus hn st]
    split
    · next hci => cases Graph.find?_unique hn (hci ▸ hk); exact ⟨_, rfl, hin⟩
    · exact ⟨k, hk, hin⟩
  have h0 := And.intro ha (And.intro hp (hc.setStatus hn (.inl hw) hid))
  rw [Graph.resolve_waiting hn hw hst]
  cases hr : Graph.propagate (g.edges.length + 1) (g.setNode { n with status := st })
      ((g.succs id).map (fun t => (t, id, st))) with
  | error e =>
    obtain ⟨g1, t, s, st', rest, ⟨ha1, hp1, hc1⟩, he⟩ :=
      Graph.propagate_error (P := fun g m => g.Aux m ∧ g.Pend m ∧ g.RClosed)
        (fun ⟨a, p, c⟩ hd => ⟨a.depResolved hd, p.depResolved a hd, c.depResolved hd⟩) h0
        (Graph.resolve_fuel hn hw hst) hr
    obtain ⟨_, _, hok⟩ := Graph.depResolved_succeeds ha1 hp1 hc1
    cases he.symm.trans hok
  | ok g' =>
    exact ⟨g', rfl, (Graph.propagate_induction (P := fun g m => g.Aux m ∧ g.Pend m ∧ g.RClosed)
      (fun ⟨a, p, c⟩ hd => ⟨a.depResolved hd, p.depResolved a hd, c.depResolved hd⟩) h0 hr).2.2⟩

set_option linter.unusedVariables false in
/-- the invariant is not needed -/
theorem Graph.RClosed.resolve {g g' : Graph ι} (h : g.Inv) (hc : g.RClosed) {id : ι} {st : St}
    (hok : g.resolve id st = .ok g')
    (hid : st = St.resolved → ∀ n, g.find? id = some n →
      (∀ ed ∈ g.edges, ed.2.1 = id → ed.2.2 = Dep.and → ∃ m, g.find? ed.1 = some m ∧ m.status = St.resolved) ∧
      ((∃ ed ∈ g.edges, ed.2.1 = id ∧ ed.2.2 = Dep.or) → ∃ q ∈ n.res, q.2 = Dep.or)) : g'.RClosed := by
  obtain ⟨m, hm, hcase, hk⟩ := Graph.resolve_keeps_setStatus hok
  exact (hc.setStatus hm hcase fun h => hid h m hm).of_keeps hk

theorem Graph.resolve_unres_succeeds {g : Graph ι} (h : g.Inv) (hc : g.RClosed) {id : ι} {n : Node ι}
    (hn : g.find? id = some n) (hs : n.status ≠ St.resolved) :
    ∃ g', g.resolve id St.unres = .ok g' ∧ g'.RClosed := by
  cases hst : n.status with
  | waiting => exact Graph.resolve_ok h hc .unres hn hst nofun nofun
  | resolved => exact absurd hst hs
  | unres => exact ⟨g, by rw [Graph.resolve_unres hn hst, if_pos rfl], hc⟩

end Arca.Model
