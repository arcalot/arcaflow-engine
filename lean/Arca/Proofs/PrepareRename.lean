/-
`Wf.rename ρ` renames the step ids and the step segment of every reference (`$.steps.S...`).  For an injective `ρ` the
operation sequence of the renamed workflow is the renamed operation sequence (`ops_rename`).
-/
import Arca.Model.Prepare
import Arca.Proofs.PrepareFold

namespace Arca.Model
open Arca.Gen (StageRow)

def renamePath (ρ : String → String) : List String → List String
  | k :: s :: rest => if k = "steps" then k :: ρ s :: rest else k :: s :: rest
  | p => p

mutual
  def Expr.rename (ρ : String → String) : Expr → Expr
    | .root => .root
    | .dot e k => if Expr.path? e = some ["steps"] then .dot e (ρ k) else .dot (Expr.rename ρ e) k
    | .idx e i => .idx (Expr.rename ρ e) i
    | .lit v => .lit v
    | .call f args => .call f (Expr.renameArgs ρ args)
  def Expr.renameArgs (ρ : String → String) : List Expr → List Expr
    | [] => []
    | e :: es => Expr.rename ρ e :: Expr.renameArgs ρ es
end

mutual
  def AIn.rename (ρ : String → String) : AIn → AIn
    | .lit v => .lit v
    | .expr e => .expr (e.rename ρ)
    | .list xs => .list (AIn.renameList ρ xs)
    | .map kvs => .map (AIn.renameKvs ρ kvs)
    | .oneof d opts => .oneof d (AIn.renameKvs ρ opts)
    | .optional w e => .optional w (e.rename ρ)
    | .ordisabled e => .ordisabled (e.rename ρ)
  def AIn.renameList (ρ : String → String) : List AIn → List AIn
    | [] => []
    | x :: xs => AIn.rename ρ x :: AIn.renameList ρ xs
  def AIn.renameKvs (ρ : String → String) : List (String × AIn) → List (String × AIn)
    | [] => []
    | (k, x) :: rest => (k, AIn.rename ρ x) :: AIn.renameKvs ρ rest
end

def Step.rename (ρ : String → String) (s : Step) : Step :=
  { id := ρ s.id, kind := s.kind, fields := AIn.renameKvs ρ s.fields }

def Wf.rename (ρ : String → String) (wf : Wf) : Wf :=
  { inputFields := wf.inputFields, steps := wf.steps.map (Step.rename ρ), outputs := AIn.renameKvs ρ wf.outputs }

def NodeId.rename (ρ : String → String) : NodeId → NodeId
  | .input => .input
  | .stage s g => .stage (ρ s) g
  | .out s g o => .out (ρ s) g o
  | .wfout x => .wfout x
  | .group p path => .group (p.rename ρ) path
  | .option g k => .option (g.rename ρ) k

def Op.rename (ρ : String → String) : Op → Op
  | .node n => .node (n.rename ρ)
  | .edge a b d t => .edge (a.rename ρ) (b.rename ρ) d t
  | .fail r => .fail r

def Edge.rename (ρ : String → String) (e : Edge) : Edge := (e.1.rename ρ, e.2.1.rename ρ, e.2.2)

theorem renamePath_snoc (ρ : String → String) (p : List String) (k : String) (h : p ≠ ["steps"]) :
    renamePath ρ (p ++ [k]) = renamePath ρ p ++ [k] := by
  cases p with
  | nil => simp [renamePath]
  | cons a rest =>
    cases rest with
    | nil =>
      have ha : a ≠ "steps" := fun e => h (by rw [e])
      simp [renamePath, ha]
    | cons b rest' =>
      simp only [List.cons_append, renamePath]
      split <;> simp

theorem path?_rename (ρ : String → String) : ∀ e : Expr, Expr.path? (e.rename ρ) = (Expr.path? e).map (renamePath ρ)
  | .root => by simp [Expr.rename, Expr.path?, renamePath]
  | .lit _ => by simp [Expr.rename, Expr.path?]
  | .call _ _ => by simp [Expr.rename, Expr.path?]
  | .idx e i => by
    simp only [Expr.rename, Expr.path?]
    exact path?_rename ρ e
  | .dot e k => by
    simp only [Expr.rename]
    split
    · rename_i h
      simp [Expr.path?, h, renamePath]
    · rename_i h
      simp only [Expr.path?, path?_rename ρ e]
      cases hp : Expr.path? e with
      | none => simp
      | some p =>
        have : p ≠ ["steps"] := fun e' => h (by rw [hp, e'])
        simp [renamePath_snoc ρ p k this]

theorem deps_of_path : ∀ {e : Expr} {p : List String}, Expr.path? e = some p → Expr.deps e = [p]
  | .root, _, h => by cases h; rfl
  | .dot e k, _, h => by simp only [Expr.deps, h]
  | .idx e i, _, h => by simp only [Expr.deps, h]

mutual
  theorem deps_rename (ρ : String → String) : ∀ e : Expr, Expr.deps (e.rename ρ) = (Expr.deps e).map (renamePath ρ)
    | .lit _ => rfl
    | .call f args => by
      simp only [Expr.rename, Expr.deps]
      exact depsArgs_rename ρ args
    | .root => rfl
    | .idx e i => by
      cases h : Expr.path? (.idx e i) with
      | some p => rw [deps_of_path h, deps_of_path (by rw [path?_rename, h]; rfl)]; rfl
      | none =>
        have h' : Expr.path? (.idx (e.rename ρ) i) = none := by
          have := path?_rename ρ (.idx e i); rwa [h] at this
        simp only [Expr.rename, Expr.deps, h, h']
        exact deps_rename ρ e
    | .dot e k => by
      cases h : Expr.path? (.dot e k) with
      | some p => rw [deps_of_path h, deps_of_path (by rw [path?_rename, h]; rfl)]; rfl
      | none =>
        have hn : Expr.path? e = none := by simpa [Expr.path?] using h
        have hr : (Expr.dot e k).rename ρ = .dot (e.rename ρ) k := by simp [Expr.rename, hn]
        have h' : Expr.path? (.dot (e.rename ρ) k) = none := by rw [← hr, path?_rename, h]; rfl
        simp only [hr, Expr.deps, h, h']
        exact deps_rename ρ e
  theorem depsArgs_rename (ρ : String → String) :
      ∀ es : List Expr, Expr.depsArgs (Expr.renameArgs ρ es) = (Expr.depsArgs es).map (renamePath ρ)
    | [] => rfl
    | e :: es => by
      simp only [Expr.renameArgs, Expr.depsArgs, List.map_append]
      rw [deps_rename ρ e, depsArgs_rename ρ es]
end

theorem orDisabledStep_rename (ρ : String → String) (e : Expr) :
    orDisabledStep (e.rename ρ) = (orDisabledStep e).map ρ := by
  unfold orDisabledStep
  rw [path?_rename]
  cases h : Expr.path? e with
  | none => simp
  | some p =>
    match p with
    | [] => simp [renamePath]
    | [a] => simp [renamePath]
    | [a, b] => by_cases ha : a = "steps" <;> simp [renamePath, ha]
    | a :: b :: c :: rest =>
      simp only [Option.map_some, renamePath]
      by_cases ha : a = "steps" <;> simp [ha]

theorem disabledExpr_rename (ρ : String → String) (s : String) : (disabledExpr s).rename ρ = disabledExpr (ρ s) := by
  simp [disabledExpr, Expr.rename, Expr.path?]

def mapOk (f : NodeId → NodeId) : Except Reject NodeId → Except Reject NodeId
  | .ok a => .ok (f a)
  | .error r => .error r

theorem findStep_rename {ρ : String → String} (hρ : ∀ a b, ρ a = ρ b → a = b) (wf : Wf) (s : String) :
    (wf.rename ρ).findStep (ρ s) = (wf.findStep s).map (Step.rename ρ) := by
  refine List.find?_map.trans (congrArg (Option.map _) (congrArg (wf.steps.find? ·) (funext fun st => ?_)))
  exact decide_eq_decide.2 ⟨hρ _ _, congrArg ρ⟩

theorem steps_ne_input : ("steps" : String) ≠ "input" := by decide

theorem renamePath_of_ne (ρ : String → String) {k : String} (h : k ≠ "steps") (rest : List String) :
    renamePath ρ (k :: rest) = k :: rest := by
  cases rest with
  | nil => rfl
  | cons s rest => exact if_neg h

theorem resolve_rename {ρ : String → String} (hρ : ∀ a b, ρ a = ρ b → a = b) (po : List String) (wf : Wf)
    (p : List String) :
    (wf.rename ρ).resolve po (renamePath ρ p) = mapOk (NodeId.rename ρ) (wf.resolve po p) := by
  match p with
  | [] => rfl
  | k :: rest =>
    by_cases h : k = "steps"
    · subst h
      cases rest with
      | nil => rfl
      | cons s rest =>
        simp only [renamePath, if_true, Wf.resolve, steps_ne_input, if_false, findStep_rename hρ]
        cases wf.findStep s with
        | none => rfl
        | some st =>
          -- the renamed step has the kind of `st`, and nothing else of it is read
          simp only [Option.map_some, show (st.rename ρ).kind = st.kind from rfl]
          repeat' split
          all_goals rfl
    · -- no step is looked up: the answer is `input` or an error
      simp only [renamePath_of_ne ρ h, Wf.resolve, h, if_false, show (wf.rename ρ).inputFields = wf.inputFields from rfl]
      repeat' split
      all_goals rfl

theorem opsRefs_rename {ρ : String → String} {R R' : Resolver}
    (hR : ∀ p, R' (renamePath ρ p) = mapOk (NodeId.rename ρ) (R p)) (c : NodeId) (e : Expr) :
    opsRefs R' (c.rename ρ) (e.rename ρ) = (opsRefs R c e).map (Op.rename ρ) := by
  unfold opsRefs
  rw [deps_rename, List.map_map, List.map_map]
  apply List.map_congr_left
  intro p _
  simp only [Function.comp, hR]
  cases R p <;> simp [mapOk, Op.rename]

theorem renameKvs_eq_map (ρ : String → String) (l : List (String × AIn)) :
    AIn.renameKvs ρ l = l.map fun kx => (kx.1, kx.2.rename ρ) := by
  induction l with
  | nil => rfl
  | cons a rest ih => simp only [AIn.renameKvs, ih, List.map_cons]

theorem renameKvs_isEmpty (ρ : String → String) (l : List (String × AIn)) :
    (AIn.renameKvs ρ l).isEmpty = l.isEmpty := by
  rw [renameKvs_eq_map, List.isEmpty_map]

theorem lookup_map_snd {α β : Type} (g : α → β) (f : String) (l : List (String × α)) :
    lookup f (l.map fun kx => (kx.1, g kx.2)) = (lookup f l).map g := by
  induction l with
  | nil => rfl
  | cons a rest ih =>
    simp only [List.map_cons, lookup]
    split <;> simp [ih]

mutual
  theorem opsIn_rename {ρ : String → String} {R R' : Resolver}
      (hR : ∀ p, R' (renamePath ρ p) = mapOk (NodeId.rename ρ) (R p)) (cur : NodeId) (path : List String) :
      ∀ a, opsIn R' (cur.rename ρ) path (a.rename ρ) = (opsIn R cur path a).map (Op.rename ρ)
    | .lit _ => by simp [AIn.rename, opsIn]
    | .expr e => by simp only [AIn.rename, opsIn]; exact opsRefs_rename hR cur e
    | .optional w e => by
      simp only [AIn.rename, opsIn, List.map_append, ← opsRefs_rename hR (.group cur path) e]
      rfl
    | .ordisabled e => by
      simp only [AIn.rename, opsIn, orDisabledStep_rename]
      cases orDisabledStep e with
      | none => rfl
      | some s =>
        simp only [Option.map_some, List.map_append, disabledExpr_rename,
          ← opsRefs_rename hR (.option (.group cur path) "disabled") (disabledExpr s),
          ← opsRefs_rename hR (.option (.group cur path) "enabled") e]
        rfl
    | .list xs => by simp only [AIn.rename, opsIn]; exact opsList_rename hR cur path 0 xs
    | .map kvs => by simp only [AIn.rename, opsIn]; exact opsKvs_rename hR cur path kvs
    | .oneof d opts => by
      simp only [AIn.rename, opsIn, renameKvs_isEmpty]
      split
      · rfl
      · simp only [List.map_append, ← opsOpts_rename hR (.group cur path) opts]
        rfl
  theorem opsList_rename {ρ : String → String} {R R' : Resolver}
      (hR : ∀ p, R' (renamePath ρ p) = mapOk (NodeId.rename ρ) (R p)) (cur : NodeId) (path : List String) (i : Nat) :
      ∀ xs, opsList R' (cur.rename ρ) path i (AIn.renameList ρ xs) = (opsList R cur path i xs).map (Op.rename ρ)
    | [] => by simp [AIn.renameList, opsList]
    | x :: xs => by
      simp only [AIn.renameList, opsList, List.map_append]
      rw [opsIn_rename hR cur (path ++ [toString i]) x, opsList_rename hR cur path (i + 1) xs]
  theorem opsKvs_rename {ρ : String → String} {R R' : Resolver}
      (hR : ∀ p, R' (renamePath ρ p) = mapOk (NodeId.rename ρ) (R p)) (cur : NodeId) (path : List String) :
      ∀ kvs, opsKvs R' (cur.rename ρ) path (AIn.renameKvs ρ kvs) = (opsKvs R cur path kvs).map (Op.rename ρ)
    | [] => by simp [AIn.renameKvs, opsKvs]
    | (k, x) :: rest => by
      simp only [AIn.renameKvs, opsKvs, List.map_append]
      rw [opsIn_rename hR cur (path ++ [k]) x, opsKvs_rename hR cur path rest]
  theorem opsOpts_rename {ρ : String → String} {R R' : Resolver}
      (hR : ∀ p, R' (renamePath ρ p) = mapOk (NodeId.rename ρ) (R p)) (g : NodeId) :
      ∀ opts, opsOpts R' (g.rename ρ) (AIn.renameKvs ρ opts) = (opsOpts R g opts).map (Op.rename ρ)
    | [] => by simp [AIn.renameKvs, opsOpts]
    | (k, x) :: rest => by
      simp only [AIn.renameKvs, opsOpts, List.map_append, ← opsIn_rename hR (.option g k) [] x,
        ← opsOpts_rename hR g rest]
      rfl
end

theorem flatMap_eq_map {α β γ : Type} {h : β → γ} {f : α → List γ} {g : α → List β} (l : List α)
    (e : ∀ x, f x = (g x).map h) : l.flatMap f = (l.flatMap g).map h := by
  rw [List.map_flatMap, funext e]

theorem ops_rename {ρ : String → String} (hρ : ∀ a b, ρ a = ρ b → a = b) (po : List String) (wf : Wf) :
    (wf.rename ρ).ops po = (wf.ops po).map (Op.rename ρ) := by
  have hR := resolve_rename hρ po wf
  have e1 : (wf.rename ρ).steps = wf.steps.map (Step.rename ρ) := rfl
  have e2 : (wf.rename ρ).outputs = wf.outputs.map fun kx => (kx.1, kx.2.rename ρ) := renameKvs_eq_map ρ _
  have hfail : ∀ b r, (failIf b r).map (Op.rename ρ) = failIf b r := by
    intro b r; cases b <;> rfl
  have hnodes (s : Step) : stepNodeOps po (s.rename ρ) = (stepNodeOps po s).map (Op.rename ρ) :=
    flatMap_eq_map _ fun row => by
      simp only [rowNodeOps, Step.rename, List.map_flatMap, List.map_cons, List.map_nil, Op.rename, NodeId.rename]
  have hedges (s : Step) : stepEdgeOps ((wf.rename ρ).resolve po) (s.rename ρ)
      = (stepEdgeOps (wf.resolve po) s).map (Op.rename ρ) :=
    flatMap_eq_map _ fun row => by
      simp only [rowEdgeOps, List.map_append, List.map_map]
      refine congrArg _ (flatMap_eq_map _ fun f => ?_)
      simp only [fieldOps, Step.rename, renameKvs_eq_map, lookup_map_snd]
      cases lookup f s.fields with
      | none => rfl
      | some a => exact opsIn_rename hR (.stage s.id row.id) [] a
  have houts (o : String × AIn) : outputOps ((wf.rename ρ).resolve po) (o.1, o.2.rename ρ)
      = (outputOps (wf.resolve po) o).map (Op.rename ρ) :=
    congrArg _ (opsIn_rename hR (.wfout o.1) [] o.2)
  simp only [Wf.ops, e1, e2, List.isEmpty_map, List.flatMap_map, hnodes, hedges, houts, List.map_append,
    List.map_flatMap, hfail]
  rfl

theorem nodeIds_map_rename (ρ : String → String) (os : List Op) :
    nodeIds (os.map (Op.rename ρ)) = (nodeIds os).map (NodeId.rename ρ) := by
  induction os with
  | nil => rfl
  | cons op rest ih => cases op <;> simp [nodeIds, Op.rename] at ih ⊢ <;> exact ih

theorem edge_mem_map_rename {ρ : String → String} {os : List Op} {a' b' : NodeId} {d : Dep} {tol : Bool} :
    Op.edge a' b' d tol ∈ os.map (Op.rename ρ) ↔
      ∃ a b, Op.edge a b d tol ∈ os ∧ a' = a.rename ρ ∧ b' = b.rename ρ := by
  constructor
  · rintro h
    obtain ⟨op, hop, h⟩ := List.mem_map.1 h
    cases op <;> cases h
    exact ⟨_, _, hop, rfl, rfl⟩
  · rintro ⟨a, b, hop, rfl, rfl⟩
    exact List.mem_map.2 ⟨_, hop, rfl⟩

theorem fail_mem_map_rename {ρ : String → String} {os : List Op} {r : Reject} :
    Op.fail r ∈ os.map (Op.rename ρ) ↔ Op.fail r ∈ os := by
  constructor
  · intro h
    obtain ⟨op, hop, h⟩ := List.mem_map.1 h
    cases op <;> cases h
    exact hop
  · exact fun h => List.mem_map.2 ⟨_, h, rfl⟩

end Arca.Model
