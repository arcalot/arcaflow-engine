/-
`opsIn` (the walk of `prepareDependencies`) performs, site by site, the operations `siteOps` lists for the sites that
`sites` enumerates (`opsIn_eq`).  What one site does is said once (`mem_siteOps`); the implied edges `siteEdges` are the
same lists (`siteEdges_eq`).
-/
import Arca.Model.Prepare
import Arca.Proofs.PrepareFold

namespace Arca.Model
open Arca.Gen (StageRow pluginStages foreachStages)

/-- what `prepareDependencies` does at one site -/
def siteOps (R : Resolver) : Site → List Op
  | .val cur _ (.expr e) => opsRefs R cur e
  | .val cur path (.optional w e) =>
    [.node (.group cur path), .edge (.group cur path) cur (optDep w) false] ++ opsRefs R (.group cur path) e
  | .val cur path (.oneof _ opts) =>
    if opts.isEmpty then [.fail .emptyOneOf]
    else [.node (.group cur path), .edge (.group cur path) cur .and false]
  | .val cur path (.ordisabled e) =>
    match orDisabledStep e with
    | none => [.fail .badOrDisabled]
    | some s =>
      [.node (.group cur path), .edge (.group cur path) cur .and false]
        ++ optionHead (.group cur path) "disabled" ++ opsRefs R (.option (.group cur path) "disabled") (disabledExpr s)
        ++ optionHead (.group cur path) "enabled" ++ opsRefs R (.option (.group cur path) "enabled") e
  | .opt g k => optionHead g k
  | .val _ _ (.lit _) => []
  | .val _ _ (.list _) => []
  | .val _ _ (.map _) => []

mutual
  theorem opsIn_eq (R : Resolver) (cur : NodeId) (path : List String) :
      ∀ a, opsIn R cur path a = (sites cur path a).flatMap (siteOps R)
    | .lit _ | .expr _ | .optional _ _ => by simp [opsIn, sites, siteOps]
    | .ordisabled e => by
      cases h : orDisabledStep e <;> simp [opsIn, sites, siteOps, h]
    | .list xs => by simp [opsIn, sites, siteOps, opsList_eq R cur path 0 xs]
    | .map kvs => by simp [opsIn, sites, siteOps, opsKvs_eq R cur path kvs]
    | .oneof d opts => by
      simp only [opsIn, sites, siteOps, List.flatMap_cons]
      cases opts with
      | nil => simp [sitesOpts]
      | cons o rest => simp [opsOpts_eq R (.group cur path) (o :: rest)]
  theorem opsList_eq (R : Resolver) (cur : NodeId) (path : List String) (i : Nat) :
      ∀ xs, opsList R cur path i xs = (sitesList cur path i xs).flatMap (siteOps R)
    | [] => by simp [opsList, sitesList]
    | x :: xs => by
      simp only [opsList, sitesList, List.flatMap_append]
      rw [opsIn_eq R cur (path ++ [toString i]) x, opsList_eq R cur path (i + 1) xs]
  theorem opsKvs_eq (R : Resolver) (cur : NodeId) (path : List String) :
      ∀ kvs, opsKvs R cur path kvs = (sitesKvs cur path kvs).flatMap (siteOps R)
    | [] => by simp [opsKvs, sitesKvs]
    | (k, x) :: rest => by
      simp only [opsKvs, sitesKvs, List.flatMap_append]
      rw [opsIn_eq R cur (path ++ [k]) x, opsKvs_eq R cur path rest]
  theorem opsOpts_eq (R : Resolver) (g : NodeId) :
      ∀ opts, opsOpts R g opts = (sitesOpts g opts).flatMap (siteOps R)
    | [] => by simp [opsOpts, sitesOpts]
    | (k, x) :: rest => by
      simp only [opsOpts, sitesOpts, List.flatMap_cons, List.flatMap_append, siteOps]
      rw [opsIn_eq R (.option g k) [] x, opsOpts_eq R g rest, List.append_assoc]
end

theorem opsKvs_flatMap (R : Resolver) (cur : NodeId) (path : List String) :
    ∀ kvs, opsKvs R cur path kvs = kvs.flatMap (fun kx => opsIn R cur (path ++ [kx.1]) kx.2)
  | [] => by simp [opsKvs]
  | (k, x) :: rest => by simp [opsKvs, opsKvs_flatMap R cur path rest]

theorem opsOpts_flatMap (R : Resolver) (g : NodeId) :
    ∀ opts, opsOpts R g opts = opts.flatMap (fun kx => optionHead g kx.1 ++ opsIn R (.option g kx.1) [] kx.2)
  | [] => by simp [opsOpts]
  | (k, x) :: rest => by simp [opsOpts, opsOpts_flatMap R g rest]

/-- Where a site of a value rooted at `c0` lives.  `L` ("listed") is always membership in the site list of the
enclosing value; it is a parameter because each of the four mutual walks below proves the statement for its own list,
and a result about a part is lifted to the whole by `mono`. -/
def Coord (c0 : NodeId) (L : Site → Prop) : Site → Prop
  | .val c _ _ => c = c0 ∨ ∃ g k, c = .option g k ∧ L (.opt g k)
  | .opt g _ => ∃ c p d opts, g = .group c p ∧ L (.val c p (.oneof d opts)) ∧ opts ≠ []

/-- the same for the sites below the options of one `!oneof` with group node `g0` -/
def CoordO (g0 : NodeId) (L : Site → Prop) : Site → Prop
  | .val c _ _ => ∃ g k, c = .option g k ∧ L (.opt g k)
  | .opt g _ => g = g0 ∨ ∃ c p d opts, g = .group c p ∧ L (.val c p (.oneof d opts)) ∧ opts ≠ []

theorem Coord.mono {c0 : NodeId} {L L' : Site → Prop} (h : ∀ σ, L σ → L' σ) {σ : Site} (hc : Coord c0 L σ) :
    Coord c0 L' σ := by
  cases σ with
  | val c p a => exact hc.imp_right fun ⟨g, k, h1, h2⟩ => ⟨g, k, h1, h _ h2⟩
  | opt g k =>
    obtain ⟨c, p, d, opts, h1, h2, h3⟩ := hc
    exact ⟨c, p, d, opts, h1, h _ h2, h3⟩

theorem CoordO.mono {g0 : NodeId} {L L' : Site → Prop} (h : ∀ σ, L σ → L' σ) {σ : Site} (hc : CoordO g0 L σ) :
    CoordO g0 L' σ := by
  cases σ with
  | val c p a =>
    obtain ⟨g, k, h1, h2⟩ := hc
    exact ⟨g, k, h1, h _ h2⟩
  | opt g k => exact hc.imp_right fun ⟨c, p, d, opts, h1, h2, h3⟩ => ⟨c, p, d, opts, h1, h _ h2, h3⟩

theorem CoordO.toCoord {c0 : NodeId} {p0 : List String} {d : String} {opts : List (String × AIn)} {L : Site → Prop}
    (hL : L (.val c0 p0 (.oneof d opts))) (hne : opts ≠ []) {σ : Site} (hc : CoordO (.group c0 p0) L σ) :
    Coord c0 L σ := by
  cases σ with
  | val c p a => exact Or.inr hc
  | opt g k => exact hc.elim (fun hc => ⟨c0, p0, d, opts, hc, hL, hne⟩) id

theorem Coord.toCoordO {g k} {L : Site → Prop} (hL : L (.opt g k)) {σ : Site} (hc : Coord (.option g k) L σ) :
    CoordO g L σ := by
  cases σ with
  | val c p a => exact hc.elim (fun hc => ⟨g, k, hc, hL⟩) id
  | opt g' k' => exact Or.inr hc

mutual
  theorem sites_coord (c0 : NodeId) (p0 : List String) :
      ∀ a, ∀ σ ∈ sites c0 p0 a, Coord c0 (· ∈ sites c0 p0 a) σ
    | .lit _ | .expr _ | .optional _ _ | .ordisabled _ => by simp [sites, Coord]
    | .list xs => by
      simp only [sites, List.mem_cons]
      rintro σ (rfl | h)
      · exact Or.inl rfl
      · exact (sitesList_coord c0 p0 0 xs σ h).mono fun _ => Or.inr
    | .map kvs => by
      simp only [sites, List.mem_cons]
      rintro σ (rfl | h)
      · exact Or.inl rfl
      · exact (sitesKvs_coord c0 p0 kvs σ h).mono fun _ => Or.inr
    | .oneof d opts => by
      simp only [sites, List.mem_cons]
      rintro σ (rfl | h)
      · exact Or.inl rfl
      · have hne : opts ≠ [] := by rintro rfl; simp [sitesOpts] at h
        exact ((sitesOpts_coord (.group c0 p0) opts σ h).mono fun _ => Or.inr).toCoord (Or.inl rfl) hne
  theorem sitesList_coord (c0 : NodeId) (p0 : List String) (i : Nat) :
      ∀ xs, ∀ σ ∈ sitesList c0 p0 i xs, Coord c0 (· ∈ sitesList c0 p0 i xs) σ
    | [] => by simp [sitesList]
    | x :: xs => by
      simp only [sitesList, List.mem_append]
      rintro σ (h | h)
      · exact (sites_coord c0 (p0 ++ [toString i]) x σ h).mono fun _ => Or.inl
      · exact (sitesList_coord c0 p0 (i + 1) xs σ h).mono fun _ => Or.inr
  theorem sitesKvs_coord (c0 : NodeId) (p0 : List String) :
      ∀ kvs, ∀ σ ∈ sitesKvs c0 p0 kvs, Coord c0 (· ∈ sitesKvs c0 p0 kvs) σ
    | [] => by simp [sitesKvs]
    | (k, x) :: rest => by
      simp only [sitesKvs, List.mem_append]
      rintro σ (h | h)
      · exact (sites_coord c0 (p0 ++ [k]) x σ h).mono fun _ => Or.inl
      · exact (sitesKvs_coord c0 p0 rest σ h).mono fun _ => Or.inr
  theorem sitesOpts_coord (g0 : NodeId) :
      ∀ opts, ∀ σ ∈ sitesOpts g0 opts, CoordO g0 (· ∈ sitesOpts g0 opts) σ
    | [] => by simp [sitesOpts]
    | (k, x) :: rest => by
      simp only [sitesOpts, List.mem_cons, List.mem_append]
      rintro σ (rfl | h | h)
      · exact Or.inl rfl
      · exact ((sites_coord (.option g0 k) [] x σ h).mono fun _ h => Or.inr (Or.inl h)).toCoordO (Or.inl rfl)
      · exact (sitesOpts_coord g0 rest σ h).mono fun _ h => Or.inr (Or.inr h)
end

theorem mem_opsRefs {R : Resolver} {cur : NodeId} {e : Expr} {op : Op} :
    op ∈ opsRefs R cur e ↔ ∃ p ∈ Expr.deps e,
      (∃ a, R p = .ok a ∧ op = .edge a cur .and true) ∨ (∃ r, R p = .error r ∧ op = .fail r) := by
  simp only [opsRefs, List.mem_map]
  refine exists_congr fun p => and_congr_right fun _ => ?_
  cases R p <;> simp [eq_comm]

theorem mem_refEdges {R : Resolver} {cur : NodeId} {e : Expr} {x : Edge} :
    x ∈ refEdges R cur e ↔ ∃ p ∈ Expr.deps e, ∃ a, R p = .ok a ∧ x = (a, cur, Dep.and) := by
  simp only [refEdges, List.mem_filterMap]
  refine exists_congr fun p => and_congr_right fun _ => ?_
  cases R p <;> simp [eq_comm]

theorem edge_mem_opsRefs {R : Resolver} {cur : NodeId} {e : Expr} {a b : NodeId} {d : Dep} {tol : Bool} :
    Op.edge a b d tol ∈ opsRefs R cur e ↔ (a, b, d) ∈ refEdges R cur e ∧ tol = true := by
  simp only [mem_opsRefs, mem_refEdges, Op.edge.injEq, reduceCtorEq, and_false, exists_false, or_false, Prod.mk.injEq,
    ← and_assoc, exists_and_right]

theorem node_not_mem_opsRefs {R : Resolver} {cur : NodeId} {e : Expr} {n : NodeId} : Op.node n ∉ opsRefs R cur e := by
  simp [mem_opsRefs]

/-- a `NodeId` that a reference can resolve to -/
def NodeId.isRef : NodeId → Prop
  | .input => True
  | .stage _ _ => True
  | .out _ _ _ => True
  | _ => False

def NodeId.isGroupLike : NodeId → Prop
  | .group _ _ => True
  | .option _ _ => True
  | _ => False

def Site.holder : Site → NodeId
  | .val cur _ _ => cur
  | .opt g _ => g

def Site.fails : Site → Option Reject
  | .val _ _ (.oneof _ opts) => if opts.isEmpty then some .emptyOneOf else none
  | .val _ _ (.ordisabled e) => if (orDisabledStep e).isNone then some .badOrDisabled else none
  | _ => none

/-- the edges between the nodes a site creates and its holder; never tolerated as duplicates -/
def siteStrict : Site → List Edge
  | .val cur path (.optional w _) => [(.group cur path, cur, optDep w)]
  | .val cur path (.oneof _ _) => [(.group cur path, cur, .and)]
  | .val cur path (.ordisabled e) =>
    if (orDisabledStep e).isNone then []
    else [(.group cur path, cur, .and), (.option (.group cur path) "disabled", .group cur path, .or),
      (.option (.group cur path) "enabled", .group cur path, .or)]
  | .opt g k => [(.option g k, g, .or)]
  | _ => []

/-- the expressions of a site, each with the node its references are connected to -/
def siteRefs : Site → List (NodeId × Expr)
  | .val cur _ (.expr e) => [(cur, e)]
  | .val cur path (.optional _ e) => [(.group cur path, e)]
  | .val cur path (.ordisabled e) =>
    match orDisabledStep e with
    | none => []
    | some s => [(.option (.group cur path) "disabled", disabledExpr s), (.option (.group cur path) "enabled", e)]
  | _ => []

theorem mem_siteOps {R : Resolver} {σ : Site} {op : Op} :
    op ∈ siteOps R σ ↔ match σ.fails with
      | some r => op = .fail r
      | none => (∃ n ∈ siteNodes σ, op = .node n) ∨ (∃ x ∈ siteStrict σ, op = .edge x.1 x.2.1 x.2.2 false) ∨
          ∃ ce ∈ siteRefs σ, op ∈ opsRefs R ce.1 ce.2 := by
  cases σ with
  | opt g k => simp [siteOps, Site.fails, siteNodes, siteStrict, siteRefs, optionHead]
  | val cur path v =>
    cases v with
    | ordisabled e =>
      cases h : orDisabledStep e
      · simp [siteOps, Site.fails, h]
      · -- both sides list the same operations, in different orders (sorting them by `simp` is many times dearer)
        simp only [siteOps, h, optionHead, List.cons_append, List.nil_append, List.append_assoc, List.mem_cons,
          List.mem_append, Site.fails, Option.isNone_some, Bool.false_eq_true, ↓reduceIte, siteNodes,
          List.not_mem_nil, or_false, exists_eq_or_imp, exists_eq_left, siteStrict, siteRefs]
        grind
    | oneof d opts => cases opts <;> simp [siteOps, Site.fails, siteNodes, siteStrict, siteRefs]
    | _ => simp [siteOps, Site.fails, siteNodes, siteStrict, siteRefs, or_assoc, or_comm]

theorem siteEdges_eq (R : Resolver) (σ : Site) :
    siteEdges R σ = siteStrict σ ++ (siteRefs σ).flatMap (fun ce => refEdges R ce.1 ce.2) := by
  cases σ with
  | opt g k => rfl
  | val cur path v =>
    cases v with
    | ordisabled e => cases h : orDisabledStep e <;> simp [siteEdges, siteStrict, siteRefs, h]
    | _ => simp [siteEdges, siteStrict, siteRefs]

theorem site_shape (σ : Site) :
    (∀ n ∈ siteNodes σ, n.isGroupLike) ∧
    (∀ x ∈ siteStrict σ, x.1 ∈ siteNodes σ ∧ (x.2.1 = σ.holder ∨ x.2.1 ∈ siteNodes σ)) ∧
    (∀ ce ∈ siteRefs σ, ce.1 = σ.holder ∨ ce.1 ∈ siteNodes σ) := by
  cases σ with
  | opt g k => simp [siteNodes, siteStrict, siteRefs, Site.holder, NodeId.isGroupLike]
  | val cur path v =>
    cases v with
    | ordisabled e =>
      cases h : orDisabledStep e <;> simp [siteNodes, siteStrict, siteRefs, Site.holder, NodeId.isGroupLike, h]
    | _ => simp [siteNodes, siteStrict, siteRefs, Site.holder, NodeId.isGroupLike]

theorem node_mem_siteOps {R : Resolver} {σ : Site} {n : NodeId} :
    Op.node n ∈ siteOps R σ ↔ σ.fails = none ∧ n ∈ siteNodes σ := by
  rw [mem_siteOps]
  cases σ.fails <;> simp [node_not_mem_opsRefs]

theorem edge_mem_siteOps {R : Resolver} {σ : Site} {a b : NodeId} {d : Dep} {tol : Bool} :
    Op.edge a b d tol ∈ siteOps R σ ↔ σ.fails = none ∧
      ((tol = false ∧ (a, b, d) ∈ siteStrict σ) ∨ (tol = true ∧ ∃ ce ∈ siteRefs σ, (a, b, d) ∈ refEdges R ce.1 ce.2)) := by
  rw [mem_siteOps]
  cases σ.fails with
  | some r => simp
  | none =>
    simp only [true_and]
    constructor
    · rintro (⟨n, _, h⟩ | ⟨x, hx, h⟩ | ⟨ce, hce, h⟩)
      · cases h
      · cases h; exact Or.inl ⟨rfl, hx⟩
      · obtain ⟨h1, h2⟩ := edge_mem_opsRefs.1 h
        exact Or.inr ⟨h2, ce, hce, h1⟩
    · rintro (⟨rfl, hx⟩ | ⟨rfl, ce, hce, h⟩)
      · exact Or.inr (Or.inl ⟨_, hx, rfl⟩)
      · exact Or.inr (Or.inr ⟨ce, hce, edge_mem_opsRefs.2 ⟨h, rfl⟩⟩)

theorem exists_edge_mem_siteOps {R : Resolver} {σ : Site} {a b : NodeId} {d : Dep} :
    (∃ tol, Op.edge a b d tol ∈ siteOps R σ) ↔ σ.fails = none ∧ (a, b, d) ∈ siteEdges R σ := by
  rw [siteEdges_eq, List.mem_append, List.mem_flatMap]
  constructor
  · rintro ⟨tol, h⟩
    exact ⟨(edge_mem_siteOps.1 h).1, (edge_mem_siteOps.1 h).2.imp And.right And.right⟩
  · rintro ⟨hf, h | h⟩
    · exact ⟨false, edge_mem_siteOps.2 ⟨hf, .inl ⟨rfl, h⟩⟩⟩
    · exact ⟨true, edge_mem_siteOps.2 ⟨hf, .inr ⟨rfl, h⟩⟩⟩

theorem siteOps_edge_ends {R : Resolver} {σ : Site} {a b : NodeId} {d : Dep} {tol : Bool}
    (h : Op.edge a b d tol ∈ siteOps R σ) :
    ((tol = true ∧ d = .and ∧ ∃ p, R p = .ok a) ∨ (tol = false ∧ Op.node a ∈ siteOps R σ)) ∧
    (b = σ.holder ∨ Op.node b ∈ siteOps R σ) := by
  obtain ⟨hf, h⟩ := edge_mem_siteOps.1 h
  have hn : ∀ {n}, n ∈ siteNodes σ → Op.node n ∈ siteOps R σ := fun hn => node_mem_siteOps.2 ⟨hf, hn⟩
  rcases h with ⟨rfl, hx⟩ | ⟨rfl, ce, hce, hr⟩
  · obtain ⟨h1, h2⟩ := (site_shape σ).2.1 _ hx
    exact ⟨Or.inr ⟨rfl, hn h1⟩, h2.imp_right hn⟩
  · obtain ⟨p, _, a', hp, he⟩ := mem_refEdges.1 hr
    cases he
    exact ⟨Or.inl ⟨rfl, rfl, p, hp⟩, ((site_shape σ).2.2 _ hce).imp_right hn⟩

/-- the expressions a site contains (for `!ordisabled`: the given one and the generated `disabled` one) -/
def Site.exprs : Site → List Expr
  | .val _ _ (.expr e) => [e]
  | .val _ _ (.optional _ e) => [e]
  | .val _ _ (.ordisabled e) =>
    match orDisabledStep e with
    | none => [e]
    | some s => [disabledExpr s, e]
  | .val _ _ (.lit _) => []
  | .val _ _ (.list _) => []
  | .val _ _ (.map _) => []
  | .val _ _ (.oneof _ _) => []
  | .opt _ _ => []

theorem Site.exprs_refs {σ : Site} {e : Expr} (he : e ∈ σ.exprs) : σ.fails ≠ none ∨ ∃ c, (c, e) ∈ siteRefs σ := by
  cases σ with
  | opt g k => simp [Site.exprs] at he
  | val cur path v =>
    cases v with
    | ordisabled e' =>
      cases hs : orDisabledStep e' <;> simp [Site.exprs, hs] at he
      · simp [Site.fails, hs]
      · rcases he with rfl | rfl <;> simp [siteRefs, hs]
    | _ => simp [Site.exprs] at he <;> subst he <;> simp [siteRefs]

theorem site_expr_ops {R : Resolver} {σ : Site} {e : Expr} (he : e ∈ σ.exprs) {p : List String} (hp : p ∈ Expr.deps e) :
    (∃ a c, R p = .ok a ∧ Op.edge a c .and true ∈ siteOps R σ) ∨ (∃ r, Op.fail r ∈ siteOps R σ) := by
  cases hf : σ.fails with
  | some r => exact Or.inr ⟨r, mem_siteOps.2 (by rw [hf])⟩
  | none =>
    obtain ⟨c, hc⟩ := (Site.exprs_refs he).resolve_left (fun h => h hf)
    have hin : ∀ {op}, op ∈ opsRefs R c e → op ∈ siteOps R σ := fun h =>
      mem_siteOps.2 (by rw [hf]; exact Or.inr (Or.inr ⟨_, hc, h⟩))
    cases h : R p with
    | ok a => exact Or.inl ⟨a, c, rfl, hin (mem_opsRefs.2 ⟨p, hp, Or.inl ⟨a, h, rfl⟩⟩)⟩
    | error r => exact Or.inr ⟨r, hin (mem_opsRefs.2 ⟨p, hp, Or.inr ⟨r, h, rfl⟩⟩)⟩

end Arca.Model
