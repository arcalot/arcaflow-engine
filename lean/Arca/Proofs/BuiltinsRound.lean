/-
`encodeNat` is exact below 2^53, hence intToFloat / floor / ceil / round are exact integer arithmetic on the scaled value.
-/
import Arca.Proofs.BuiltinsFloat

-- as in BuiltinsFloat
set_option exponentiation.threshold 4096

namespace Arca.Proofs.Builtins
open Arca.Model Arca.Model.Builtins

theorem fields_pack {e m : Nat} (he : e < 2047) (hm : m < 2 ^ 52) :
    e * 2 ^ 52 + m < 2 ^ 63 ∧ fExp (e * 2 ^ 52 + m) = e ∧ fMant (e * 2 ^ 52 + m) = m := by
  refine ⟨by omega, ?_, ?_⟩
  · rw [fExp, Nat.add_comm, Nat.add_mul_div_right _ _ (by decide), Nat.div_eq_of_lt hm, Nat.zero_add,
      Nat.mod_eq_of_lt (by omega)]
  · rw [fMant, Nat.mul_add_mod_self_right, Nat.mod_eq_of_lt hm]

theorem fields_withSign (s : Bool) {b : Nat} (h : b < 2 ^ 63) :
    fSign (withSign s b) = s ∧ fExp (withSign s b) = fExp b ∧ fMant (withSign s b) = fMant b := by
  cases s <;> simp only [withSign, Bool.false_eq_true, if_false, if_true]
  · exact ⟨by simp [fSign, Nat.div_eq_of_lt h], trivial, trivial⟩
  · have e63 : 2 ^ 63 = 2048 * 2 ^ 52 := by decide
    refine ⟨?_, ?_, ?_⟩
    · rw [fSign, Nat.add_div_right _ (by decide), Nat.div_eq_of_lt h]; rfl
    · rw [fExp, fExp, e63, Nat.add_mul_div_right _ _ (by decide), Nat.add_mod_right]
    · rw [fMant, fMant, e63, Nat.add_mul_mod_self_right]

theorem scaledAbs_congr {x y : Nat} (he : fExp x = fExp y) (hm : fMant x = fMant y) : scaledAbs x = scaledAbs y := by
  unfold scaledAbs; rw [he, hm]

theorem scaledAbs_encodeNat {n : Nat} (h53 : n < 2 ^ 53) :
    scaledAbs (encodeNat n) = n * unit ∧ encodeNat n < 2 ^ 63 ∧ fExp (encodeNat n) < 2047 := by
  by_cases h0 : n = 0
  · subst h0; decide +kernel
  · -- with l = log2 n ≤ 52 the pattern is packed from exponent 1023 + l and mantissa n·2^(52-l) - 2^52
    have hl : Nat.log2 n < 53 := (Nat.log2_lt h0).2 h53
    have hlo : 2 ^ Nat.log2 n ≤ n := Nat.log2_self_le h0
    have hhi : n < 2 ^ (Nat.log2 n + 1) := Nat.lt_log2_self
    unfold encodeNat
    simp only [h0, if_false, show Nat.log2 n ≤ 52 by omega, if_true]
    generalize Nat.log2 n = l at *
    have hk : 2 ^ l * 2 ^ (52 - l) = 2 ^ 52 := by rw [← Nat.pow_add]; congr 1; omega
    have hk1 : 2 ^ (l + 1) * 2 ^ (52 - l) = 2 ^ 53 := by rw [← Nat.pow_add]; congr 1; omega
    have hA1 : 2 ^ 52 ≤ n * 2 ^ (52 - l) := hk ▸ Nat.mul_le_mul_right _ hlo
    have hA2 : n * 2 ^ (52 - l) < 2 ^ 53 := hk1 ▸ Nat.mul_lt_mul_of_pos_right hhi (Nat.pow_pos (by decide))
    obtain ⟨h1, h2, h3⟩ := fields_pack (e := 1023 + l) (m := n * 2 ^ (52 - l) - 2 ^ 52) (by omega) (by omega)
    refine ⟨?_, h1, by omega⟩
    have hm : 2 ^ 52 + (n * 2 ^ (52 - l) - 2 ^ 52) = n * 2 ^ (52 - l) := by omega
    unfold scaledAbs
    rw [h2, h3, if_neg (show 1023 + l ≠ 0 by omega), hm, Nat.mul_assoc, ← Nat.pow_add,
      show 52 - l + (1023 + l - 1) = 1074 by omega, unit]

theorem scaled_signed_encode (s : Bool) {n : Nat} (h53 : n < 2 ^ 53) :
    scaled (withSign s (encodeNat n)) = (if s then -(n : Int) else n) * unit ∧
    scaledAbs (withSign s (encodeNat n)) = n * unit ∧
    fSign (withSign s (encodeNat n)) = s ∧ isNaN (withSign s (encodeNat n)) = false := by
  obtain ⟨h1, h2, h3⟩ := scaledAbs_encodeNat h53
  obtain ⟨g1, g2, g3⟩ := fields_withSign s h2
  have ha : scaledAbs (withSign s (encodeNat n)) = n * unit := (scaledAbs_congr g2 g3).trans h1
  refine ⟨?_, ha, g1, ?_⟩
  · unfold scaled; rw [g1, ha]
    cases s <;> simp [Int.natCast_mul, Int.neg_mul]
  · unfold isNaN; rw [g2]
    simp [Nat.ne_of_lt h3]

theorem scaled_encodeNat {n : Nat} (h53 : n < 2 ^ 53) : scaled (encodeNat n) = (n : Int) * unit := by
  have := (scaled_signed_encode false h53).1
  simp only [withSign, Bool.false_eq_true, if_false] at this
  exact this

theorem scaled_neg_encodeNat {n : Nat} (h53 : n < 2 ^ 53) :
    scaled (withSign true (encodeNat n)) = -(n : Int) * unit := by
  have := (scaled_signed_encode true h53).1
  simp only [if_true] at this
  exact this

/-- below exponent 52 the truncated magnitude is below 2^52 -/
theorem truncAbs_small {b : Nat} (h : fExp b < 1075) : scaledAbs b / unit < 2 ^ 52 := by
  apply (Nat.div_lt_iff_lt_mul unit_pos).2
  unfold scaledAbs
  have hm : fMant b < 2 ^ 52 := by unfold fMant; omega
  split
  · calc fMant b < 2 ^ 52 := hm
      _ ≤ 2 ^ 52 * unit := Nat.le_mul_of_pos_right _ unit_pos
  · have he : fExp b - 1 ≤ 1073 := by omega
    have h1 : 2 ^ (fExp b - 1) ≤ 2 ^ 1073 := Nat.pow_le_pow_right (by decide) he
    have h2 : 2 ^ 52 + fMant b < 2 ^ 53 := by omega
    calc (2 ^ 52 + fMant b) * 2 ^ (fExp b - 1) ≤ (2 ^ 52 + fMant b) * 2 ^ 1073 := Nat.mul_le_mul_left _ h1
      _ < 2 ^ 53 * 2 ^ 1073 := Nat.mul_lt_mul_of_pos_right h2 (Nat.pow_pos (by decide))
      _ = 2 ^ 52 * unit := by unfold unit; decide +kernel

theorem integral_big {b : Nat} (h : fExp b ≥ 1075) : unit ∣ scaledAbs b := by
  unfold scaledAbs
  have : fExp b ≠ 0 := by omega
  simp only [this, if_false]
  apply Nat.dvd_mul_left_of_dvd
  unfold unit
  exact Nat.pow_dvd_pow 2 (by omega)

theorem neg_natCast_ediv (a u : Nat) (hu : 0 < u) :
    -(a : Int) / (u : Int) = -((if a % u = 0 then a / u else a / u + 1 : Nat) : Int) := by
  rw [Int.neg_ediv, Int.sign_natCast_of_ne_zero (Nat.ne_of_gt hu), ← Int.natCast_ediv]
  simp only [Int.natCast_dvd_natCast, Nat.dvd_iff_mod_eq_zero]
  split <;> omega

/-- `math.Floor`: `/` on `Int` rounds down -/
theorem scaled_floorBits {b : Nat} (h : fExp b < 1075) : scaled (floorBits b) = scaled b / unit * unit := by
  have hq := truncAbs_small h
  unfold floorBits
  cases hs : fSign b <;> simp only [show ¬ fExp b ≥ 1075 by omega, Bool.false_eq_true, if_false, if_true]
  · rw [scaled_of_pos hs, ← Int.natCast_ediv, scaled_encodeNat (by omega)]
  · rw [scaled_of_neg hs, neg_natCast_ediv _ _ unit_pos, scaled_neg_encodeNat (by split <;> omega)]

theorem scaled_ceilBits {b : Nat} (h : fExp b < 1075) : scaled (ceilBits b) = -(-scaled b / unit) * unit := by
  have hq := truncAbs_small h
  unfold ceilBits
  cases hs : fSign b <;> simp only [show ¬ fExp b ≥ 1075 by omega, Bool.false_eq_true, if_false, if_true]
  · rw [scaled_of_pos hs, neg_natCast_ediv _ _ unit_pos, Int.neg_neg, scaled_encodeNat (by split <;> omega)]
  · rw [scaled_of_neg hs, Int.neg_neg, ← Int.natCast_ediv, scaled_neg_encodeNat (by omega)]

/-- `math.Round`: on the magnitude, the nearest integer, halves up -/
theorem scaledAbs_roundBits (b : Nat) (h : fExp b < 1075) :
    ∃ n : Nat, scaledAbs (roundBits b) = n * unit ∧ fSign (roundBits b) = fSign b ∧
      n * unit ≤ scaledAbs b + unit / 2 ∧ scaledAbs b + unit / 2 < (n + 1) * unit := by
  have hq := truncAbs_small h
  have hb := div_bounds (scaledAbs b + unit / 2) unit unit_pos
  unfold roundBits
  simp only [show ¬ fExp b ≥ 1075 by omega, if_false]
  have hn : (scaledAbs b + unit / 2) / unit < 2 ^ 53 := by
    apply (Nat.div_lt_iff_lt_mul unit_pos).2
    have h1 : scaledAbs b < 2 ^ 52 * unit := (Nat.div_lt_iff_lt_mul unit_pos).1 hq
    have h2 : unit / 2 < unit := Nat.div_lt_self unit_pos (by decide)
    have h3 : 2 ^ 53 * unit = 2 ^ 52 * unit + 2 ^ 52 * unit := by
      rw [← Nat.add_mul]
    have h4 : unit ≤ 2 ^ 52 * unit := Nat.le_mul_of_pos_left _ (by decide)
    omega
  obtain ⟨_, g2, g3, _⟩ := scaled_signed_encode (fSign b) hn
  exact ⟨_, g2, g3, hb.1, hb.2⟩

end Arca.Proofs.Builtins
