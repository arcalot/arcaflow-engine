/-
Helper lemmas for C12, trace part: the notification traces of the plugin provider against `LifecycleSpec`.
-/
import Arca.Model.PluginStep
import Arca.Proofs.ListLemmas

namespace Arca.Proofs.PluginTraces
open Arca.Model.PluginStep
open Arca.Model.PluginStep.LifecycleSpec
open Arca.Proofs (ite_eq_iff)

/-- the output ids the scripted plugin of the correspondence harness declares (`opOutputs()` in sdeploy.go) -/
def scriptedOuts : List String := ["alt", "cancelled", "error", "success"]

theorem accepts_iff {stages : List Arca.Gen.StageRow} {edges : List (String × String)} {outs : List String}
    {tr : List Notif} :
    accepts stages edges outs tr = true ↔
      (noDup (finishedStages tr) = true ∧
       (finishedStages tr).all (fun s => !(failedStages tr).contains s) = true ∧
       (reportedOutputs tr).all (fun p => outputOk stages outs p.1 p.2) = true ∧
       ((tr.filter isComplete).length == 1) = true ∧
       (afterComplete tr).all isFail = true ∧
       (mentioned tr).all (fun s => (stageIds stages).contains s) = true ∧
       (transitions tr).all (fun e => edges.contains e) = true) := by
  unfold accepts violations
  simp only [List.isEmpty_iff, List.append_eq_nil_iff, ite_eq_iff, reduceCtorEq, and_false, or_false, and_true, and_assoc]

theorem outputOk_mono {stages : List Arca.Gen.StageRow} {outs outs' : List String} (h : ∀ x ∈ outs, x ∈ outs')
    {st : String} {o : Option String} (hok : outputOk stages outs st o = true) : outputOk stages outs' st o = true := by
  unfold outputOk at *
  split at hok <;> try exact hok
  split at hok
  · rw [if_pos ‹_›]
    simp only [List.contains_iff_mem] at hok ⊢
    exact h _ hok
  · rwa [if_neg ‹_›]

theorem accepts_mono {stages : List Arca.Gen.StageRow} {edges : List (String × String)} (outs : List String)
    {outs' : List String} (h : ∀ x ∈ outs, x ∈ outs') {tr : List Notif} (hacc : accepts stages edges outs tr = true) :
    accepts stages edges outs' tr = true := by
  obtain ⟨hdup, hfinfail, houts, hrest⟩ := accepts_iff.mp hacc
  exact accepts_iff.mpr
    ⟨hdup, hfinfail, List.all_eq_true.mpr fun p hp => outputOk_mono h (List.all_eq_true.mp houts p hp), hrest⟩

theorem fixed_paths_accepted (outs : List String) : ∀ p ∈ fixedPaths, pluginAcceptsRelaxed outs p.2 = true := by
  have nil : ∀ p ∈ fixedPaths, pluginAcceptsRelaxed [] p.2 = true := by decide +kernel
  exact fun p hp => accepts_mono [] nofun (nil p hp)

theorem result_path (x : String) : path (upToRunning ++ [runResultOk x]) =
    [.change none none "deploy", .change (some "deploy") none "enabling", .fail "disabled",
     .change (some "enabling") (some "resolved") "starting", .change (some "starting") (some "started") "running",
     .change (some "running") none "outputs", .complete "outputs" (some x)] := rfl

theorem result_paths_accepted (x : String) (outs : List String) (hx : x ∈ outs) :
    ∀ p ∈ resultPaths x, pluginAcceptsRelaxed outs p.2 = true := by
  -- only the clause on output ids looks at `x`
  have key : pluginAcceptsRelaxed outs (path (upToRunning ++ [runResultOk x])) = true := by
    rw [result_path, pluginAcceptsRelaxed, accepts_iff]
    refine ⟨rfl, rfl, ?_, rfl, rfl, rfl, rfl⟩
    simp [reportedOutputs, outputOk, declaredOutputs, Arca.Gen.pluginStages, hx]
  -- both labels stand for the same notifications
  intro p hp
  obtain rfl | rfl : p = (_, _) ∨ p = (_, _) := by simpa [resultPaths] using hp
  all_goals exact key

theorem strict_rejects_disabled (outs : List String) :
    pluginAccepts outs (path (upToEnabling ++ [transitionToDisabled])) = false :=
  Bool.eq_false_iff.mpr fun h =>
    -- the transition clause does not mention `outs`
    have ⟨_, _, _, _, _, _, htrans⟩ := accepts_iff.mp h
    absurd htrans (by decide +kernel)

theorem disabled_mem (outs : List String) :
    ("disabled", path (upToEnabling ++ [transitionToDisabled])) ∈ pluginPaths outs :=
  List.mem_append_left _ (List.mem_of_getElem? (i := 5) rfl)

end Arca.Proofs.PluginTraces
