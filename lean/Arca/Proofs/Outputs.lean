/-
The Boolean table checks of `Arca.Model.OutputShape` say what their names promise, and a value of a conforming shape is
accepted by the declared object once the run loop has serialized it.
-/
import Arca.Model.OutputShape
import Arca.Model.RunLoop

namespace Arca.Proofs.Outputs
open Arca.Model

theorem findProp_some {ds : List Prop'} {k : String} {p : Prop'} (h : findProp ds k = some p) : p ∈ ds ∧ p.name = k := by
  unfold findProp at h
  exact ⟨List.mem_of_find?_eq_some h, by simpa using List.find?_some h⟩

theorem findField_some {fs : List Field} {k : String} {f : Field} (h : findField fs k = some f) : f ∈ fs ∧ f.key = k := by
  unfold findField at h
  exact ⟨List.mem_of_find?_eq_some h, by simpa using List.find?_some h⟩

theorem keysDeclared_spec {declared : List Prop'} {fs : List Field} (h : keysDeclared declared fs = true) {f : Field}
    (hf : f ∈ fs) : ∃ p, findProp declared f.key = some p ∧ p.kind.accepts f.kind = true := by
  have := List.all_eq_true.mp h f hf
  split at this
  · next p hp => exact ⟨p, hp, this⟩
  · cases this

theorem requiredProduced_spec {declared : List Prop'} {fs : List Field} (h : requiredProduced declared fs = true)
    {p : Prop'} (hp : p ∈ declared) (hreq : p.required = true) :
    ∃ f, findField fs p.name = some f ∧ f.always = true := by
  have := List.all_eq_true.mp h p hp
  rw [hreq] at this
  split at this
  · next f hf => exact ⟨f, hf, this⟩
  · cases this

/-- that the keys are distinct (`keysDistinct`) is not carried over -/
theorem conformsShape_spec {declared : List Prop'} {s : Shape} (h : conformsShape declared s = true) :
    ∃ fs, s.fields = some fs ∧
      (∀ f ∈ fs, ∃ p ∈ declared, p.name = f.key ∧ p.kind.accepts f.kind = true) ∧
      (∀ p ∈ declared, p.required = true → ∃ f ∈ fs, f.key = p.name ∧ f.always = true) := by
  unfold conformsShape at h
  split at h
  · next fs hf =>
    simp only [Bool.and_eq_true] at h
    refine ⟨fs, hf, fun f hfm => ?_, fun p hpm hreq => ?_⟩
    · obtain ⟨p, hp, ha⟩ := keysDeclared_spec h.1.2 hfm
      exact ⟨p, (findProp_some hp).1, (findProp_some hp).2, ha⟩
    · obtain ⟨f, hf, ha⟩ := requiredProduced_spec h.2 hpm hreq
      exact ⟨f, (findField_some hf).1, (findField_some hf).2, ha⟩
  · cases h

/-- `generated_outputs_conform` excuses dynamic rows explicitly and fails on unrecognised ones -/
theorem conformsShape_unknown (declared : List Prop') (src : String) : conformsShape declared (.unknown src) = false := rfl
theorem conformsShape_dynamic (declared : List Prop') (src : String) : conformsShape declared (.dynamic src) = false := rfl

theorem accepts_allows {d k : TyKind} {v : Val} (ha : d.accepts k = true) (hv : Val.hasKind k v = true) : d.allows v = true := by
  unfold TyKind.accepts at ha
  split at ha
  · cases ha
  · cases ha
  · rfl
  · -- neither kind is `other`, `d` is not `any`, and the kinds are equal: `allows` is `hasKind`
    rename_i hother _ _
    obtain rfl : d = k := by simpa using ha
    unfold TyKind.allows
    split
    · rfl
    · exact (hother rfl).elim
    · exact hv

theorem all_rowConforms_iff (ds : List DeclaredRow) (rs : List ProducedRow) :
    rs.all (rowConforms ds) = true ↔
      ∀ r ∈ rs, r.shape.isDynamic = true ∨
        ∃ d ∈ ds, d.provider = r.provider ∧ d.stage = r.stage ∧ d.output = r.output ∧ conformsShape d.props r.shape = true := by
  simp [rowConforms, DeclaredRow.describes, and_assoc]

theorem fields_accepted {declared : List Prop'} {fs : List Field} {kvs : List (String × Val)}
    (hk : keysDeclared declared fs = true) (hr : requiredProduced declared fs = true) (hm : fieldsMatch fs kvs = true) :
    objectAccepts declared (.map kvs) = true := by
  unfold fieldsMatch at hm
  simp only [Bool.and_eq_true, List.all_eq_true] at hm
  obtain ⟨hm1, hm2⟩ := hm
  simp only [objectAccepts, Bool.and_eq_true, List.all_eq_true]
  constructor
  · -- a key of the value is a listed field of its static kind, hence a declared property that allows it
    intro kv hkv
    have h1 := hm1 kv hkv
    split at h1
    · next f hf =>
      obtain ⟨hfm, hfk⟩ := findField_some hf
      obtain ⟨p, hp, ha⟩ := keysDeclared_spec hk hfm
      rw [hfk] at hp
      rw [hp]
      exact accepts_allows ha h1
    · cases h1
  · -- a required property is a field that is always produced, hence present
    intro p hp
    cases hreq : p.required with
    | false => rfl
    | true =>
      obtain ⟨f, hf, ha⟩ := requiredProduced_spec hr hp hreq
      obtain ⟨hfm, hfk⟩ := findField_some hf
      have h2 := hm2 f hfm
      rw [ha, hfk] at h2
      exact h2

/-- the run loop stores `serializedOutput v` (a struct becomes the map of its JSON fields), not `v` -/
theorem produced_value_accepted {declared : List Prop'} {s : Shape} {v : Val}
    (h : conformsShape declared s = true) (hv : v.hasShape s = true) :
    objectAccepts declared (serializedOutput v) = true := by
  unfold conformsShape at h
  cases s with
  | mapLit fs =>
    simp only [Shape.fields, Bool.and_eq_true] at h
    cases v <;> simp [Val.hasShape] at hv
    exact fields_accepted h.1.2 h.2 hv
  | struct n fs =>
    simp only [Shape.fields, Bool.and_eq_true] at h
    cases v <;> simp [Val.hasShape] at hv
    exact fields_accepted h.1.2 h.2 hv.2
  | dynamic src => simp [Shape.fields] at h
  | unknown src => simp [Shape.fields] at h

end Arca.Proofs.Outputs
