/-
A finished workflow never ends silently (completeness, C01 / C03).  The invariant `CoreOK` ties the ready set to what
`notifySteps` has processed: with enough fuel it leaves the ready set EMPTY unless an evaluation failed or the loop died;
once every step has completed every node of the acyclic graph is settled, and the verdict is read off that state.  `pend`,
the to-do list of `processNodes`, is not in the steps of `LoopLemmas.lean`: `processNode_core` follows `processNode` itself.
-/
import Arca.Proofs.LoopSettle
import Arca.Proofs.DgraphFuel
import Arca.Proofs.DgraphReady

namespace Arca.Model

/-- an expression of a popped node could not be evaluated (sent, or dropped because the buffer was full) -/
def Action.isEvalFailed : Action → Bool
  | .errorSent .evalFailed => true
  | .errorDropped .evalFailed => true
  | _ => false

def hasEF (l : List Action) : Prop := ∃ a ∈ l, a.isEvalFailed = true
def hasNMO (l : List Action) : Prop := ∃ a ∈ l, a.isNoMoreOutputs = true

theorem hasEF_append {l m : List Action} : hasEF (l ++ m) ↔ hasEF l ∨ hasEF m := by
  simp only [hasEF, List.mem_append, or_and_right, exists_or]

theorem hasNMO_append {l m : List Action} : hasNMO (l ++ m) ↔ hasNMO l ∨ hasNMO m := by
  simp only [hasNMO, List.mem_append, or_and_right, exists_or]

theorem hasNMO_nil : ¬ hasNMO [] := fun ⟨_, h, _⟩ => nomatch h
theorem hasEF_nil : ¬ hasEF [] := fun ⟨_, h, _⟩ => nomatch h

/-- a run has a verdict: an output was produced (stored as the result, its `output` action occurred), or "no more
outputs" was reported, or an evaluation failure was reported -/
def Verdict (r : LoopState × List Action) : Prop :=
  (∃ oid v, r.1.result = some (oid, v) ∧ Action.output oid v ∈ r.2) ∨ hasNMO r.2 ∨ hasEF r.2

/-- executable necessary condition of `Verdict` -/
def verdictB (r : LoopState × List Action) : Bool :=
  r.1.result.isSome || r.2.any Action.isNoMoreOutputs || r.2.any Action.isEvalFailed

theorem verdictB_of_verdict {r : LoopState × List Action} (h : Verdict r) : verdictB r = true := by
  unfold verdictB
  rcases h with ⟨oid, v, h1, _⟩ | ⟨a, ha, h1⟩ | ⟨a, ha, h1⟩
  · simp [h1]
  · simp [List.any_eq_true.2 ⟨a, ha, h1⟩]
  · simp [List.any_eq_true.2 ⟨a, ha, h1⟩]

/-- the invariant is given up: the loop died, or an evaluation failed (the popped nodes not yet processed are dropped) -/
def Esc (r : R) : Prop := r.1.dead = true ∨ hasEF r.2

/-- the processing order drops none of the popped nodes (Go iterates over the whole map) -/
def OrdAll (ord : Order) : Prop := ∀ l, ∀ x ∈ l, x ∈ ord l

theorem ordAll_of_perm (ord : Order) (h : ∀ l, (ord l).Perm l) : OrdAll ord :=
  fun l _ hx => (h l).mem_iff.2 hx

/-- what the completeness argument additionally assumes of a prepared workflow (checked by the driver on every real
prepared workflow, `wfViolations`; each clause is needed: `LoopCompleteCex.lean`) -/
structure Prepared.WF3 (P : Prepared) : Prop where
  wf2 : P.WF2
  /-- the dependency graph has no cycle (`HasCycles` of the graph library) -/
  acyclic : P.dag.hasCycles = false
  /-- the input node exists, and it is the only node of kind `input` -/
  has_input : P.dag.has "input" = true
  input_id : ∀ id it, lookup id P.items = some it → it.kind = Kind.input → id = "input"
  /-- every stage node belongs to a declared stage of its step (so some callback will settle it) -/
  stage_declared : ∀ id it, lookup id P.items = some it → it.kind = Kind.stage → P.declares it.step it.stage
  items_nodup : (P.items.map (·.1)).Nodup
  /-- the workflow outputs: at least one, each one a node of the graph, with data, and a sink -/
  has_output : ∃ id it, lookup id P.items = some it ∧ it.kind = Kind.output
  output_is_node : ∀ id it, lookup id P.items = some it → it.kind = Kind.output → P.dag.has id = true
  output_data : ∀ id it, lookup id P.items = some it → it.kind = Kind.output → it.data.isSome = true
  output_sink : ∀ id it, lookup id P.items = some it → it.kind = Kind.output → ∀ ed ∈ P.dag.edges, ed.1 ≠ id

/-- the number of nodes that are still waiting: what the fuel of `notifySteps` is measured against -/
def waitCount (P : Prepared) (g : Graph String) : Nat :=
  ((P.dag.nodes.map (·.id)).filter (fun x => decide (g.statusOf x = some St.waiting))).length

theorem waitCount_le_nodes (P : Prepared) (g : Graph String) : waitCount P g ≤ P.dag.nodes.length := by
  unfold waitCount
  have := List.length_filter_le (fun x => decide (g.statusOf x = some St.waiting)) (P.dag.nodes.map (·.id))
  simpa using this

theorem waiting_back {g g' : Graph String} (hle : GLe g g') {x : String} (h : statusIs g' x St.waiting) :
    statusIs g x St.waiting :=
  Classical.byContradiction fun hn => Settled.mono hn hle h

theorem waitCount_mono (P : Prepared) {g g' : Graph String} (hle : GLe g g') : waitCount P g' ≤ waitCount P g := by
  unfold waitCount
  apply List.filter_length_le
  intro x _ hx
  simp only [decide_eq_true_eq, statusOf_eq_iff] at hx ⊢
  exact waiting_back hle hx

theorem waitCount_resolve_lt {P : Prepared} {s : LoopState} (hd : LoopDagInv P s) {id : String} {g : Graph String}
    (hok : s.dag.resolve id St.resolved = .ok g) : waitCount P g < waitCount P s.dag := by
  have hle := GLe.resolve hd.inv hok
  obtain ⟨n, hn, hs⟩ := Graph.resolve_ok_waiting hok
  unfold waitCount
  apply List.filter_length_lt
  · intro y _ hy
    simp only [decide_eq_true_eq, statusOf_eq_iff] at hy ⊢
    exact waiting_back hle hy
  · refine ⟨id, ?_, ?_, ?_⟩
    · rw [← hd.ids]
      exact List.mem_map.2 ⟨n, (Graph.find?_some hn).1, (Graph.find?_some hn).2⟩
    · simp only [decide_eq_true_eq, statusOf_eq_iff]
      exact ⟨n, hn, hs⟩
    · simp only [decide_eq_false_iff_not, statusOf_eq_iff]
      intro hw
      obtain ⟨n', hn', hs'⟩ := Graph.resolve_status_self (by decide) hok
      cases statusIs_unique hw ⟨n', hn', hs'⟩

variable {P : Prepared} {fns : Fns}

/-- the part of the invariant about the produced output and the waiting set; the third case of `nmo` (there is no output
node at all) is excluded by `WF3.has_output` only at the end: `core_all_failed` -/
structure OutOK (P : Prepared) (fns : Fns) (N : Prop) (s : LoopState) : Prop where
  resolved_done : ∀ x, isOutputNode P x → statusIs s.dag x St.resolved → s.outputDone = true
  res_node : ∀ oid v, s.result = some (oid, v) → ∃ x it d, lookup x P.items = some it ∧ it.kind = Kind.output ∧
      it.output = oid ∧ it.data = some d ∧ statusIs s.dag x St.resolved ∧ ∃ g data, resolveIn fns g data d = .ok v
  done_res : s.outputDone = s.result.isSome
  wsub : ∀ x ∈ s.waitingOutputs, x ∈ (LoopState.init P).waitingOutputs
  nmo : s.waitingOutputs = [] → s.outputDone = true ∨ N ∨ (LoopState.init P).waitingOutputs = []

/-- the part of the invariant about the graph and the ready set: a node the loop has to process (`proc`) or to report
(`failed`) is in the ready set, or among the popped nodes `pend` that `notifySteps` still has to process.  `uj`: an
unresolvable OUTPUT node has a failed dependency (so it is not `Producible`); exempt is everything the loop marks itself. -/
structure GrOK (P : Prepared) (s : LoopState) (pend : List (String × St)) : Prop where
  dinv : LoopDagInv P s
  proc : ∀ x n, s.dag.find? x = some n → isProc P x → n.status = St.waiting → allSoft n.out →
      x ∈ s.dag.ready ∨ (x, St.waiting) ∈ pend
  failed : ∀ x n, s.dag.find? x = some n → isOutputNode P x → n.status = St.unres →
      x ∈ s.dag.ready ∨ (x, St.unres) ∈ pend ∨ x ∉ s.waitingOutputs
  pend_ok : ∀ y st, (y, st) ∈ pend → ∃ n, s.dag.find? y = some n ∧ (n.status = St.unres → st = St.unres)
  input_done : statusIs s.dag "input" St.resolved
  uj : s.dag.UJ (fun x => ¬ isOutputNode P x)

structure CoreOK (P : Prepared) (fns : Fns) (N : Prop) (s : LoopState) (pend : List (String × St)) : Prop where
  gr : GrOK P s pend
  out : OutOK P fns N s

theorem OutOK.mono {N N' : Prop} {s : LoopState} (h : OutOK P fns N s) (hN : N → N') : OutOK P fns N' s :=
  ⟨h.resolved_done, h.res_node, h.done_res, h.wsub, fun hw => (h.nmo hw).imp_right (Or.imp_left hN)⟩

/-- The graph does not change; pending nodes are dropped and output nodes leave the waiting set, which is harmless as
long as every node whose claim rested on a dropped entry (`hp`, `hf`) is accounted for otherwise. -/
theorem GrOK.weaken {s s' : LoopState} {pend pend' : List (String × St)} (h : GrOK P s pend) (hdag : s'.dag = s.dag)
    (hsub : ∀ p ∈ pend', p ∈ pend)
    (hp : ∀ x n, s.dag.find? x = some n → isProc P x → n.status = St.waiting → allSoft n.out →
      (x, St.waiting) ∈ pend → x ∈ s.dag.ready ∨ (x, St.waiting) ∈ pend')
    (hf : ∀ x n, s.dag.find? x = some n → isOutputNode P x → n.status = St.unres →
      (x, St.unres) ∈ pend ∨ x ∉ s.waitingOutputs → x ∈ s.dag.ready ∨ (x, St.unres) ∈ pend' ∨ x ∉ s'.waitingOutputs) :
    GrOK P s' pend' := by
  refine ⟨⟨hdag ▸ h.dinv.inv, hdag ▸ h.dinv.edges, hdag ▸ h.dinv.ids⟩, ?_, ?_, ?_, hdag ▸ h.input_done, hdag ▸ h.uj⟩
  · rw [hdag]
    exact fun x n hn hx hw hs => (h.proc x n hn hx hw hs).elim .inl (hp x n hn hx hw hs)
  · rw [hdag]
    exact fun x n hn hx hu => (h.failed x n hn hx hu).elim .inl (hf x n hn hx hu)
  · rw [hdag]
    exact fun y st hm => h.pend_ok y st (hsub _ hm)

theorem GrOK.congr {s s' : LoopState} {pend : List (String × St)} (h : GrOK P s pend)
    (hdag : s'.dag = s.dag) (hw : s'.waitingOutputs = s.waitingOutputs) : GrOK P s' pend :=
  h.weaken hdag (fun _ hp => hp) (fun _ _ _ _ _ _ hm => .inr hm) (fun _ _ _ _ _ hm => .inr (hw ▸ hm))

theorem OutOK.weaken {N N' : Prop} {s s' : LoopState} (h : OutOK P fns N s) (hdag : s'.dag = s.dag)
    (hd : s'.outputDone = s.outputDone) (hr : s'.result = s.result)
    (hw : ∀ x ∈ s'.waitingOutputs, x ∈ s.waitingOutputs)
    (hnmo : s'.waitingOutputs = [] → s.outputDone = true ∨ N' ∨ (LoopState.init P).waitingOutputs = []) :
    OutOK P fns N' s' :=
  ⟨by rw [hdag, hd]; exact h.resolved_done, by rw [hdag, hr]; exact h.res_node, by rw [hd, hr]; exact h.done_res,
    fun x hx => h.wsub x (hw x hx), by rw [hd]; exact hnmo⟩

theorem CoreOK.congr {N N' : Prop} {s s' : LoopState} {pend : List (String × St)}
    (h : CoreOK P fns N s pend) (hdag : s'.dag = s.dag)
    (hw : s'.waitingOutputs = s.waitingOutputs) (hd : s'.outputDone = s.outputDone) (hr : s'.result = s.result)
    (hN : N → N') : CoreOK P fns N' s' pend :=
  ⟨h.gr.congr hdag hw, h.out.weaken hdag hd hr (fun _ hx => hw ▸ hx)
    (fun he => (h.out.nmo (hw ▸ he)).imp_right (Or.imp_left hN))⟩

theorem GrOK.drop {s : LoopState} {id : String} {st : St} {rest : List (String × St)}
    (h : GrOK P s ((id, st) :: rest)) (hp : st = St.waiting → isProc P id → ¬ statusIs s.dag id St.waiting)
    (hf : st = St.unres → isOutputNode P id → id ∉ s.waitingOutputs) : GrOK P s rest := by
  refine h.weaken rfl (fun _ hp => List.mem_cons_of_mem _ hp) (fun x n hn hx hw hs hm => ?_) (fun x n hn hx hu hm => ?_)
  · rcases List.mem_cons.1 hm with h1 | h1
    · cases h1
      exact absurd ⟨n, hn, hw⟩ (hp rfl hx)
    · exact .inr h1
  · rcases hm with hm | hm
    · rcases List.mem_cons.1 hm with h1 | h1
      · cases h1
        exact .inr (.inr (hf rfl hx))
      · exact .inr (.inl h1)
    · exact .inr (.inr hm)

/-- `hres`: resolving with `resolved` never turns another node unresolvable, so the pending entries keep `pend_ok`; marking
`unres` may, so nothing may be pending then.  `hex`, for `uj`: an output node is never failed explicitly. -/
theorem GrOK.resolve {P : Prepared} {s s' : LoopState} {pend0 pend1 : List (String × St)} {id : String} {st : St}
    {g : Graph String} (h : GrOK P s pend0) (hok : s.dag.resolve id st = .ok g) (hst : st ≠ St.waiting)
    (hdag : s'.dag = g) (hw : s'.waitingOutputs = s.waitingOutputs)
    (hcarry : ∀ y st', (y, st') ∈ pend0 → y ≠ id → (y, st') ∈ pend1)
    (hsub : ∀ p ∈ pend1, p ∈ pend0)
    (hres : st = St.resolved ∨ pend1 = [])
    (hex : st = St.unres → ¬ isOutputNode P id) : GrOK P s' pend1 := by
  have hinv := h.dinv.inv
  have hle := GLe.resolve hinv hok
  obtain ⟨hrd, hnode⟩ := Graph.resolve_adv hinv hok
  have hself : statusIs g id st := Graph.resolve_status_self hst hok
  subst hdag
  refine ⟨h.dinv.gle hle, ?_, ?_, ?_, hle.mono _ _ (by decide) h.input_done, Graph.resolve_uj hinv h.uj hok hex⟩
  · intro x n' hn' hx hwait hsoft
    by_cases hxi : x = id
    · subst hxi
      exact absurd (statusIs_unique hself ⟨n', hn', hwait⟩) hst
    · obtain ⟨n, hn, h1, _⟩ := hnode x n' hn' hxi
      rcases h1 hwait hsoft with h2 | ⟨h2, h3⟩
      · exact Or.inl h2
      · exact (h.proc x n hn hx h2 h3).imp (hrd x) (hcarry _ _ · hxi)
  · intro x n' hn' hx hu
    rw [hw]
    by_cases hxi : x = id
    · subst hxi
      exact absurd hx (hex (statusIs_unique hself ⟨n', hn', hu⟩))
    · obtain ⟨n, hn, _, h1⟩ := hnode x n' hn' hxi
      rcases h1 hu with h2 | h2
      · exact Or.inl h2
      · exact (h.failed x n hn hx h2).imp (hrd x) (Or.imp_left (hcarry _ _ · hxi))
  · intro y st' hm
    obtain ⟨n, hn, hnu⟩ := h.pend_ok y st' (hsub _ hm)
    obtain ⟨n', hn'⟩ := Graph.find?_of_ids hle.ids hn
    refine ⟨n', hn', fun hu => ?_⟩
    rcases hres with rfl | hnil
    · by_cases hyi : y = id
      · subst hyi
        cases statusIs_unique hself ⟨n', hn', hu⟩
      · obtain ⟨n'', hn'', hs''⟩ := Graph.resolve_resolved_status hok hn hyi
        rw [hn'] at hn''; cases hn''
        exact hnu (hs''.symm.trans hu)
    · rw [hnil] at hm; cases hm

theorem GrOK.resolve_head {s : LoopState} {id : String} {st : St} {rest : List (String × St)} {g : Graph String}
    (h : GrOK P s ((id, st) :: rest)) (hok : s.dag.resolve id St.resolved = .ok g) : GrOK P { s with dag := g } rest :=
  h.resolve hok (by decide) rfl rfl
    (fun y st' hm hy => (List.mem_cons.1 hm).elim (fun e => absurd (congrArg Prod.fst e) hy) (fun h => h))
    (fun p hp => List.mem_cons_of_mem _ hp) (Or.inl rfl) (fun h => nomatch h)

theorem OutOK.resolve {P : Prepared} {N : Prop} {s s' : LoopState} {id : String} {st : St} {g : Graph String}
    (h : OutOK P fns N s) (hinv : s.dag.Inv) (hok : s.dag.resolve id st = .ok g)
    (hdag : s'.dag = g) (hw : s'.waitingOutputs = s.waitingOutputs) (hd : s'.outputDone = s.outputDone)
    (hr : s'.result = s.result)
    (hdone : st = St.resolved → isOutputNode P id → s.outputDone = true) : OutOK P fns N s' := by
  have hle := GLe.resolve hinv hok
  subst hdag
  refine ⟨?_, ?_, by rw [hd, hr]; exact h.done_res, by rw [hw]; exact h.wsub, by rw [hw, hd]; exact h.nmo⟩
  · rintro x hx ⟨n', hn', hs'⟩
    rw [hd]
    rcases Graph.resolve_resolved_only hok hn' hs' with ⟨rfl, hst⟩ | ⟨n, hn, hs⟩
    · exact hdone hst hx
    · exact h.resolved_done x hx ⟨n, hn, hs⟩
  · intro oid v hres
    rw [hr] at hres
    obtain ⟨x, it, d, h1, h2, h3, h4, h5, h6⟩ := h.res_node oid v hres
    exact ⟨x, it, d, h1, h2, h3, h4, hle.mono _ _ (by decide) h5, h6⟩

theorem CoreOK.dropWaiting {N N' : Prop} {s s' : LoopState} {id : String} {rest : List (String × St)}
    (h : CoreOK P fns N s ((id, St.unres) :: rest)) (hdag : s'.dag = s.dag)
    (hw : s'.waitingOutputs = s.waitingOutputs.filter (· ≠ id)) (hd : s'.outputDone = s.outputDone)
    (hr : s'.result = s.result)
    (hnmo : s.waitingOutputs.filter (· ≠ id) = [] → s.outputDone = true ∨ N') : CoreOK P fns N' s' rest := by
  refine ⟨h.gr.weaken hdag (fun _ hp => List.mem_cons_of_mem _ hp) (fun x _ _ _ _ _ hm => ?_) (fun x _ _ _ _ hm => ?_),
    h.out.weaken hdag hd hr (fun x hx => (List.mem_filter.1 (hw ▸ hx)).1) (fun he => (hnmo (hw ▸ he)).imp_right .inl)⟩
  · exact .inr ((List.mem_cons.1 hm).resolve_left (fun e => nomatch e))
  · rw [hw]
    rcases hm with hm | hm
    · rcases List.mem_cons.1 hm with h1 | h1
      · cases h1
        exact .inr (.inr (by simp))
      · exact .inr (.inl h1)
    · exact .inr (.inr fun hm' => hm (List.mem_filter.1 hm').1)

/-- the first (or a further) output node was processed and is resolved now -/
theorem OutOK.output {P : Prepared} {N N' : Prop} {s s' : LoopState} {id : String} {item : Item} {v : Val}
    (h : OutOK P fns N s) (hmono : ∀ x, statusIs s.dag x St.resolved → statusIs s'.dag x St.resolved)
    (hw : s'.waitingOutputs = s.waitingOutputs) (hd : s'.outputDone = true)
    (hr1 : s.outputDone = true → s'.result = s.result)
    (hr2 : s.outputDone = false → s'.result = some (item.output, v))
    (hitem : lookup id P.items = some item) (hk : item.kind = Kind.output) {d : InVal} (hdata : item.data = some d)
    {g0 : Graph String} {data0 : Val} (hv : resolveIn fns g0 data0 d = .ok v)
    (hres : statusIs s'.dag id St.resolved) : OutOK P fns N' s' := by
  refine ⟨fun _ _ _ => hd, ?_, ?_, by rw [hw]; exact h.wsub, fun _ => Or.inl hd⟩
  · intro oid w hres'
    cases hdo : s.outputDone with
    | true =>
      rw [hr1 hdo] at hres'
      obtain ⟨x, it, d', h1, h2, h3, h4, h5, h6⟩ := h.res_node oid w hres'
      exact ⟨x, it, d', h1, h2, h3, h4, hmono x h5, h6⟩
    | false =>
      rw [hr2 hdo] at hres'
      cases hres'
      exact ⟨id, item, d, hitem, hk, rfl, hdata, hres, _, _, hv⟩
  · rw [hd]
    cases hdo : s.outputDone with
    | true => rw [hr1 hdo, ← h.done_res, hdo]
    | false => rw [hr2 hdo]; rfl

/-- what `ResolveNode(Resolved)` does on a workflow-output node that is not unresolvable: outputs are sinks -/
theorem output_node_resolve (hP : P.WF3) {s : LoopState} (hd : LoopDagInv P s) {id : String}
    (hid : isOutputNode P id) {n : Node String} (hn : s.dag.find? id = some n) (hnu : n.status ≠ St.unres) :
    (n.status = St.waiting ∧
      s.dag.resolve id St.resolved = .ok (s.dag.setNode { n with status := St.resolved })) ∨
    (n.status = St.resolved ∧ ∃ e, s.dag.resolve id St.resolved = .error e) := by
  cases hs : n.status with
  | waiting =>
    left
    refine ⟨rfl, Graph.resolve_sink hn hs (by decide) ?_⟩
    obtain ⟨it, hit, hk⟩ := hid
    unfold Graph.succs
    rw [hd.edges, List.filter_eq_nil_iff.2, List.map_nil]
    intro e he
    simp only [decide_eq_true_eq]
    exact hP.output_sink id it hit hk e he
  | resolved =>
    right
    refine ⟨rfl, ?_⟩
    unfold Graph.resolve
    rw [hn]
    simp only [hs]
    exact ⟨_, rfl⟩
  | unres => exact absurd hs hnu

/-- `CoreOK` of the state, "no more outputs" being read off the actions (`N0`: it was reported earlier in the history) -/
def Core (P : Prepared) (fns : Fns) (N0 : Prop) (pend : List (String × St)) (r : R) : Prop :=
  CoreOK P fns (N0 ∨ hasNMO r.2) r.1 pend

/-- `r'` is `r` but for what the invariant does not speak of, with the actions of `r` and possibly more -/
structure CoreSame (r r' : R) : Prop where
  dag : r'.1.dag = r.1.dag
  wo : r'.1.waitingOutputs = r.1.waitingOutputs
  od : r'.1.outputDone = r.1.outputDone
  res : r'.1.result = r.1.result
  acts : ∃ l, r'.2 = r.2 ++ l

theorem hasNMO_of_prefix {l l' : List Action} (h : ∃ m, l' = l ++ m) (hl : hasNMO l) : hasNMO l' := by
  obtain ⟨m, rfl⟩ := h
  exact hasNMO_append.2 (Or.inl hl)

theorem hasEF_of_prefix {l l' : List Action} (h : ∃ m, l' = l ++ m) (hl : hasEF l) : hasEF l' := by
  obtain ⟨m, rfl⟩ := h
  exact hasEF_append.2 (Or.inl hl)

theorem Core.same {N0 : Prop} {pend : List (String × St)} {r r' : R} (h : Core P fns N0 pend r) (f : CoreSame r r') :
    Core P fns N0 pend r' :=
  CoreOK.congr h f.dag f.wo f.od f.res (Or.imp_right (hasNMO_of_prefix f.acts))

theorem Core.setDag_resolve {N0 : Prop} {r : R} {id : String} {st : St} {g : Graph String} (h : Core P fns N0 [] r)
    (hok : r.1.dag.resolve id st = .ok g) (hst : st ≠ St.waiting) (hno : ¬ isOutputNode P id) :
    Core P fns N0 [] ({ r.1 with dag := g }, r.2) :=
  ⟨h.gr.resolve hok hst rfl rfl (fun _ _ hm _ => hm) (fun _ hp => hp) (Or.inr rfl) (fun _ => hno),
   h.out.resolve h.gr.dinv.inv hok rfl rfl rfl rfl (fun _ ho => absurd ho hno)⟩

theorem CoreSame.of_eq {r r' : R} (hdag : r'.1.dag = r.1.dag) (hw : r'.1.waitingOutputs = r.1.waitingOutputs)
    (hd : r'.1.outputDone = r.1.outputDone) (hr : r'.1.result = r.1.result) (ha : r'.2 = r.2) : CoreSame r r' :=
  ⟨hdag, hw, hd, hr, [], by rw [ha, List.append_nil]⟩

theorem CoreSame.refl (r : R) : CoreSame r r := .of_eq rfl rfl rfl rfl rfl
theorem CoreSame.emit (r : R) (a : Action) : CoreSame r (emit r a) := ⟨rfl, rfl, rfl, rfl, _, rfl⟩
theorem CoreSame.die (r : R) (a : Action) : CoreSame r (die r a) := ⟨rfl, rfl, rfl, rfl, _, rfl⟩

theorem CoreSame.trans {a b c : R} (h1 : CoreSame a b) (h2 : CoreSame b c) : CoreSame a c := by
  obtain ⟨l1, e1⟩ := h1.acts
  obtain ⟨l2, e2⟩ := h2.acts
  exact ⟨h2.dag.trans h1.dag, h2.wo.trans h1.wo, h2.od.trans h1.od, h2.res.trans h1.res, l1 ++ l2,
    by rw [e2, e1, List.append_assoc]⟩

theorem CoreSame.send (cap : Nat) (r : R) (k : ErrKind) : CoreSame r (sendErr cap r k) := by
  unfold sendErr
  split
  · exact CoreSame.refl r
  split <;> exact ⟨rfl, rfl, rfl, rfl, _, rfl⟩

theorem CoreSame.cancel (r : R) : CoreSame r (doCancel r) := by
  unfold doCancel
  split
  · exact CoreSame.refl r
  · exact ⟨rfl, rfl, rfl, rfl, _, rfl⟩

theorem CoreSame.send_cancel (cap : Nat) (r : R) (k : ErrKind) : CoreSame r (doCancel (sendErr cap r k)) :=
  (CoreSame.send cap r k).trans (CoreSame.cancel _)

theorem mem_cancel_sendErr (cap : Nat) (r : R) (k : ErrKind) (hd : r.1.dead = false) :
    Action.errorSent k ∈ (doCancel (sendErr cap r k)).2 ∨ Action.errorDropped k ∈ (doCancel (sendErr cap r k)).2 := by
  obtain ⟨l, hl⟩ := (CoreSame.cancel (sendErr cap r k)).acts
  rw [hl]
  unfold sendErr
  rw [hd]
  simp only [Bool.false_eq_true, ↓reduceIte]
  split <;> simp

theorem hasNMO_cancel_sendErr (cap : Nat) (r : R) (hd : r.1.dead = false) :
    hasNMO (doCancel (sendErr cap r .noMoreOutputs)).2 :=
  (mem_cancel_sendErr cap r .noMoreOutputs hd).elim (fun h => ⟨_, h, rfl⟩) (fun h => ⟨_, h, rfl⟩)

theorem hasEF_cancel_sendErr (cap : Nat) (r : R) (hd : r.1.dead = false) :
    hasEF (doCancel (sendErr cap r .evalFailed)).2 :=
  (mem_cancel_sendErr cap r .evalFailed hd).elim (fun h => ⟨_, h, rfl⟩) (fun h => ⟨_, h, rfl⟩)

theorem esc_mono {a b : R} (h : Reach P a b) (ha : Esc a) : Esc b :=
  ha.imp (reach_dead_mono h) (hasEF_of_prefix (reach_acts_prefix h))

theorem nmo_mono {P : Prepared} {a b : R} (h : Reach P a b) (ha : hasNMO a.2) : hasNMO b.2 :=
  hasNMO_of_prefix (reach_acts_prefix h) ha

/-- the invariant holds with `pend` still to be processed and the ready set is empty — unless the invariant was given up -/
def Done (P : Prepared) (fns : Fns) (N0 : Prop) (pend : List (String × St)) (r : R) : Prop :=
  Esc r ∨ (Core P fns N0 pend r ∧ r.1.dag.ready = [])

/-- what `notifySteps` with fuel `f` achieves from a state with fewer than `f` waiting nodes, the invariant being kept
for the nodes pending further out (`pend`) -/
def NotifySpec (P : Prepared) (fns : Fns) (ord : Order) (f : Nat) : Prop :=
  ∀ (N0 : Prop) (r : R) (pend : List (String × St)), r.1.dead = false →
    Core P fns N0 pend r → waitCount P r.1.dag < f → Done P fns N0 pend (notifySteps P fns ord f r)

/-- the first output is the result, a further one is skipped: one state for both -/
theorem output_or_skip (r : R) (o : String) (v : Val) :
    (if r.1.outputDone then emit r (.outputSkipped o v)
      else ({ r.1 with outputDone := true, result := some (o, v) }, r.2 ++ [.output o v]) : R) =
    ({ r.1 with outputDone := true, result := if r.1.outputDone then r.1.result else some (o, v) },
      r.2 ++ [if r.1.outputDone then .outputSkipped o v else .output o v]) := by
  obtain ⟨⟨_, _, _, od, _, _, _, _, _⟩, _⟩ := r
  cases od <;> rfl

/-- what processing one popped node achieves (`out.2`: the `for` loop of `notifySteps` returns early) -/
def Post (P : Prepared) (fns : Fns) (N0 : Prop) (pend : List (String × St)) (out : R × Bool) : Prop :=
  (out.2 = true → Esc out.1) ∧ Done P fns N0 pend out.1

theorem Post.esc {N0 : Prop} {pend : List (String × St)} {out : R × Bool} (h : Esc out.1) : Post P fns N0 pend out :=
  ⟨fun _ => h, Or.inl h⟩

theorem Post.go {N0 : Prop} {pend : List (String × St)} {r : R} (h : Done P fns N0 pend r) :
    Post P fns N0 pend (r, false) :=
  ⟨nofun, h⟩

/-- `(r2, r2.1.dead)`: the `for` loop goes on unless a nested call panicked (the Go panic unwinds through it) -/
theorem Post.dead {N0 : Prop} {pend : List (String × St)} {r : R} (h : Done P fns N0 pend r) :
    Post P fns N0 pend (r, r.1.dead) :=
  ⟨Or.inl, h⟩

theorem processNode_core (hP : P.WF3) (fns : Fns) (ord : Order) (f : Nat)
    (hN : NotifySpec P fns ord f) (N0 : Prop) (r : R) (id : String) (st : St) (rest : List (String × St))
    (hd : r.1.dead = false) (hc : Core P fns N0 ((id, st) :: rest) r) (hr : r.1.dag.ready = [])
    (hf : waitCount P r.1.dag ≤ f) : Post P fns N0 rest (processNode P fns (notifySteps P fns ord f) r id st) := by
  have hinv := hc.gr.dinv.inv
  -- the node needs no processing (`hg`), and what is done leaves everything the invariant speaks of alone
  have keep : ∀ r' : R, CoreSame r r' → GrOK P r.1 rest → Post P fns N0 rest (r', false) :=
    fun r' fr hg => .go (Or.inr ⟨Core.same ⟨hg, hc.out⟩ fr, by rw [fr.dag]; exact hr⟩)
  have died : ∀ (a : Action) (b : Bool), Post P fns N0 rest (die r a, b) := fun _ _ => .esc (Or.inl rfl)
  unfold processNode
  rw [if_neg (by rw [hd]; exact Bool.false_ne_true)]
  split
  · exact died _ _
  rename_i item hitem
  -- `by_cases` and `rw` for an `if` on a proposition: `split` takes ten times as long on it here (2M heartbeats for this one)
  by_cases hst : st = St.unres
  · -- an unresolvable node
    subst hst
    rw [if_pos rfl]
    by_cases hk : item.kind = Kind.output
    · rw [if_pos hk]
      split
      · -- an output node that is not (any more) in the waiting set
        rename_i hin
        refine keep r (CoreSame.refl r) (hc.gr.drop (fun h => nomatch h) (fun _ _ hm => ?_))
        rw [List.contains_iff_mem.2 hm] at hin
        cases hin
      · -- an output node leaves the waiting set; if it was the last one: "no more outputs"
        dsimp only
        split
        · have fr := CoreSame.send_cancel P.errCap
            ({ r.1 with waitingOutputs := r.1.waitingOutputs.filter (· ≠ id) }, r.2) .noMoreOutputs
          exact .dead (Or.inr ⟨CoreOK.dropWaiting hc fr.dag fr.wo fr.od fr.res
            (fun _ => Or.inr (Or.inr (hasNMO_cancel_sendErr P.errCap _ hd))), by rw [fr.dag]; exact hr⟩)
        · rename_i hne
          refine .go (Or.inr ⟨CoreOK.dropWaiting hc rfl rfl rfl rfl (fun he => Or.inl ?_), hr⟩)
          cases hdo : r.1.outputDone with
          | true => rfl
          | false =>
            apply absurd _ hne
            simp only [he, List.isEmpty_nil, hdo, Bool.not_false, and_self]
    · -- not an output node: nothing to do
      rw [if_neg hk]
      exact keep r (CoreSame.refl r) (hc.gr.drop (fun h => nomatch h) (fun _ ho => absurd (ho.kind hitem) hk))
  -- the node was popped with a status other than `unres`: it is waiting or resolved
  rw [if_neg hst]
  split
  · rename_i hdata
    split
    · -- a dependency group: resolve it, look again
      rename_i hk
      split
      · exact died _ _
      · rename_i g hok
        have hlt := waitCount_resolve_lt hc.gr.dinv hok
        exact .dead (hN N0 ({ r.1 with dag := g }, r.2) rest hd ⟨hc.gr.resolve_head hok, hc.out.resolve hinv hok rfl rfl
          rfl rfl (fun _ ho => by rw [ho.kind hitem] at hk; cases hk)⟩ (by show waitCount P g < f; omega))
    · -- nothing to do (stage outputs, the input node): an output node would have data
      rename_i hk
      refine keep r (CoreSame.refl r) (hc.gr.drop (fun _ hp _ => ?_) (absurd · hst))
      rcases hp.kind hitem with h | h
      · exact absurd h hk
      · have := hP.output_data id _ hitem h
        rw [hdata] at this; cases this
  rename_i inData hdata
  split
  · -- the expressions cannot be evaluated
    exact .esc (Or.inr (hasEF_cancel_sendErr P.errCap r hd))
  rename_i v hv
  split
  · -- a stage node: its input is provided, or nothing happens
    rename_i hk
    have hgr : GrOK P r.1 rest := by
      refine hc.gr.drop (fun _ hp _ => ?_) (absurd · hst)
      rcases hp.kind hitem with h | h <;> rw [hk] at h <;> cases h
    by_cases hs : (!item.hasSchema) = true
    · rw [if_pos hs]
      exact keep r (CoreSame.refl r) hgr
    rw [if_neg hs]
    split
    · exact died _ _
    split
    · exact keep _ (CoreSame.emit r _) hgr
    · exact died _ _
  · -- a workflow output node: the output is produced (or skipped), then the node is resolved
    rename_i hk
    obtain ⟨n, hn, hnst⟩ := hc.gr.pend_ok id st List.mem_cons_self
    rw [output_or_skip]
    dsimp only
    rcases output_node_resolve hP hc.gr.dinv ⟨item, hitem, hk⟩ hn (fun h => hst (hnst h)) with ⟨_, hok⟩ | ⟨hres, e, herr⟩
    · rw [hok]
      refine .go (Or.inr ⟨⟨(hc.gr.resolve_head hok).congr rfl rfl, ?_⟩, hr⟩)
      exact hc.out.output (fun x => (GLe.resolve hinv hok).mono x _ (by decide)) rfl rfl (fun h => if_pos h)
        (fun h => if_neg (ne_true_of_eq_false h)) hitem hk hdata hv (Graph.resolve_status_self (by decide) hok)
    · rw [herr]
      have hgr : GrOK P r.1 rest :=
        hc.gr.drop (fun _ _ hw => nomatch statusIs_unique hw ⟨n, hn, hres⟩) (absurd · hst)
      refine .go (Or.inr ⟨⟨hgr.congr rfl rfl, ?_⟩, hr⟩)
      exact hc.out.output (fun _ hx => hx) rfl rfl (fun h => if_pos h) (fun h => if_neg (ne_true_of_eq_false h)) hitem hk hdata hv
        ⟨n, hn, hres⟩
  · exact died _ _

theorem processNodes_core (hP : P.WF3) (fns : Fns) (ord : Order) (f : Nat)
    (hN : NotifySpec P fns ord f) (N0 : Prop) (gb : Graph String) (hgb : gb.Inv) (hf : waitCount P gb ≤ f)
    (l : List (String × St)) :
    ∀ (r : R) (pend : List (String × St)), r.1.dead = false → Core P fns N0 (l ++ pend) r → r.1.dag.ready = [] →
      Later gb r.1.dag → (∀ x ∈ l, Popped ord gb r.1.dag x.1 x.2) →
      Done P fns N0 pend (processNodes P fns (notifySteps P fns ord f) r l) := by
  induction l with
  | nil =>
    intro r pend _ hc hr _ _
    exact Or.inr ⟨hc, hr⟩
  | cons x rest ih =>
    intro r pend hd hc hr hb hp
    obtain ⟨id, st⟩ := x
    obtain ⟨hstop, hres⟩ := processNode_core hP fns ord f hN N0 r id st (rest ++ pend) hd hc hr
      (Nat.le_trans (waitCount_mono P (hb.gle hgb)) hf)
    -- the rest of the list is processed by steps of `notifySteps` too: what escaped the invariant stays escaped
    have hle := (processNode_reachN (notifySteps P fns ord f) (notifySteps_reachN f) r id st hb (hp _ List.mem_cons_self)).later
      fun _ _ => StepN.later
    have hp' := fun x hx => (hp x (List.mem_cons_of_mem _ hx)).mono hle
    have hreach := (processNodes_reachN (notifySteps P fns ord f) (notifySteps_reachN f) rest _ (hb.trans hle) hp').reach
      fun _ _ => StepN.step
    unfold processNodes
    dsimp only
    split
    · rename_i hs
      exact Or.inl (hstop hs)
    · rcases hres with h1 | ⟨h1, h2⟩
      · exact Or.inl (esc_mono hreach h1)
      · cases hdd : (processNode P fns (notifySteps P fns ord f) r id st).1.1.dead with
        | true => exact Or.inl (esc_mono hreach (Or.inl hdd))
        | false => exact ih _ pend hdd h1 h2 (hb.trans hle) hp'

theorem notifySteps_core (hP : P.WF3) (fns : Fns) (ord : Order) (hord : OrdOK ord) (hall : OrdAll ord)
    (f : Nat) : NotifySpec P fns ord f := by
  induction f with
  | zero => intro N0 r pend _ _ h; omega
  | succ f ih =>
    intro N0 r pend hd hc hlt
    unfold notifySteps
    rw [hd]
    simp only [Bool.false_eq_true, ↓reduceIte]
    -- what was in the ready set is pending now
    have hpop : ∀ {x n}, r.1.dag.find? x = some n → x ∈ r.1.dag.ready → (x, n.status) ∈ ord r.1.dag.popReady.1 ++ pend :=
      fun hn h1 => List.mem_append_left _ (hall _ _ (Graph.mem_popReady_iff.2 ⟨h1, _, hn, rfl⟩))
    have hc0 : Core P fns N0 (ord r.1.dag.popReady.1 ++ pend) ({ r.1 with dag := r.1.dag.popReady.2 }, r.2) := by
      -- `OutOK` field by field: `popReady` touches `ready` alone, so `statusIs` unfolds to the same term (`weaken` would
      -- ask for a graph equation)
      refine ⟨⟨hc.gr.dinv.gle (GLe.popReady hc.gr.dinv.inv), ?_, ?_, ?_, hc.gr.input_done, hc.gr.uj⟩,
        ⟨hc.out.resolved_done, hc.out.res_node, hc.out.done_res, hc.out.wsub, hc.out.nmo⟩⟩
      · intro x n hn hx hw hs
        exact .inr ((hc.gr.proc x n hn hx hw hs).elim (hw ▸ hpop hn) (List.mem_append_right _))
      · intro x n hn hx hu
        exact .inr ((hc.gr.failed x n hn hx hu).elim (fun h1 => .inl (hu ▸ hpop hn h1)) (Or.imp_left (List.mem_append_right _)))
      · intro y st hm
        rcases List.mem_append.1 hm with hm | hm
        · obtain ⟨_, n, hn, hs⟩ := Graph.mem_popReady_iff.1 (hord _ _ hm)
          exact ⟨n, hn, fun h => hs ▸ h⟩
        · exact hc.gr.pend_ok y st hm
    exact processNodes_core hP fns ord f ih N0 r.1.dag hc.gr.dinv.inv (by omega) (ord r.1.dag.popReady.1)
      ({ r.1 with dag := r.1.dag.popReady.2 }, r.2) pend hd hc0 rfl (Later.refl _).popReady
      fun x hx => ⟨_, .refl _, (Later.refl _).popReady, hx⟩

theorem notify_core (hP : P.WF3) (fns : Fns) (ord : Order) (hord : OrdOK ord) (hall : OrdAll ord) {r : R} {N0 : Prop}
    (h : Core P fns N0 [] r) : Done P fns N0 [] (notifySteps P fns ord (notifyFuel P) r) := by
  cases hd : r.1.dead with
  | true => exact Or.inl (esc_mono (notifySteps_reach fns ord _ r) (Or.inl hd))
  | false =>
    -- `notifyFuel P` is the number of nodes + 2; + 1 would do here
    have hlt : waitCount P r.1.dag < notifyFuel P := by
      have := waitCount_le_nodes P r.1.dag
      unfold notifyFuel
      omega
    exact notifySteps_core hP fns ord hord hall (notifyFuel P) N0 r [] hd h hlt

theorem stage_not_output (hP : P.WF) {step stage : String} (hd : P.declares step stage) :
    ¬ isOutputNode P (stageNodeId step stage) :=
  fun h => stage_not_proc hP hd (.inr h)

theorem stageOutput_not_output (hP : P.WF) {step stage o : String} (ho : o ∈ P.outputsOf step stage) :
    ¬ isOutputNode P (outputNodeId step stage o) :=
  fun h => stageOutput_not_proc hP (declares_of_mem_outputsOf ho) ho (.inr h)

theorem markNode_core {N0 : Prop} {r : R} {id : String} (site : PanicSite) (h : Core P fns N0 [] r)
    (hno : ¬ isOutputNode P id) : Core P fns N0 [] (markNode site id r) := by
  unfold markNode
  split
  · exact h
  split
  · exact h
  split
  · rename_i g hok
    exact h.setDag_resolve hok (by decide) hno
  · exact h.same (CoreSame.die r _)

theorem markAll_core {N0 : Prop} {r : R} {l : List (PanicSite × String)} (h : Core P fns N0 [] r)
    (hno : ∀ p ∈ l, ¬ isOutputNode P p.2) : Core P fns N0 [] (markAll l r) :=
  List.foldlRecOn l _ h fun _ hb p hp => markNode_core p.1 hb (hno p hp)

theorem outputMarks_not_output (hP : P.WF) {step stage : String} {skip : Option String} {p : PanicSite × String}
    (hp : p ∈ outputMarks P step stage skip) : ¬ isOutputNode P p.2 := by
  obtain ⟨o, ⟨ho, _⟩, rfl⟩ := mem_outputMarks.1 hp
  exact stageOutput_not_output hP ho

theorem markOutputsUnres_core (hP : P.WF) (step stage : String) (skip : Option String) {r : R} {N0 : Prop}
    (h : Core P fns N0 [] r) : Core P fns N0 [] (markOutputsUnres P step stage skip r) :=
  markOutputsUnres_all step stage skip r ▸ markAll_core h fun _ hp => outputMarks_not_output hP hp

theorem markRemaining_core (hP : P.WF) (step : String) {r : R} {N0 : Prop} (h : Core P fns N0 [] r) :
    Core P fns N0 [] (markRemaining P step r) := by
  refine markRemaining_all step r ▸ markAll_core h fun p hp => ?_
  obtain ⟨stage, ⟨hd, _⟩, hp | rfl⟩ := mem_remainingMarks.1 hp
  · exact outputMarks_not_output hP hp
  · exact stage_not_output hP hd

theorem finishStage_core (hP : P.WF3) (fns : Fns) (ord : Order) (hord : OrdOK ord) (hall : OrdAll ord) (step : String)
    (complete : Bool) {r : R} {N0 : Prop} (h : Core P fns N0 [] r) :
    Done P fns N0 [] (finishStage P fns ord step complete r) := by
  unfold finishStage
  split
  · exact notify_core hP fns ord hord hall (markRemaining_core hP.wf2.wf step h)
  · exact notify_core hP fns ord hord hall h

theorem checkDeadlock_done {N0 : Prop} {r : R} (h : Done P fns N0 [] r) (retries : Nat) (busy : Bool) :
    Done P fns N0 [] (checkDeadlock P retries busy r) := by
  have fr : CoreSame r (checkDeadlock P retries busy r) := by
    unfold checkDeadlock
    split
    · exact CoreSame.refl r
    split
    · split
      · exact CoreSame.send_cancel _ _ _
      · exact CoreSame.emit _ _
    · exact CoreSame.refl r
  exact h.imp (.imp (by rw [(checkDeadlock_frame retries busy r).2.2.2]; exact id) (hasEF_of_prefix fr.acts))
    fun ⟨h1, h2⟩ => ⟨h1.same fr, by rw [fr.dag]; exact h2⟩

theorem onStageCompleteBody_core (hP : P.WF3) (fns : Fns) (ord : Order) (hord : OrdOK ord) (hall : OrdAll ord)
    (step prev : String) (out : Option (String × Val)) (complete : Bool) (r : R) (hg : Good P r)
    (hd : r.1.dead = false) (hl : LegalStageEnd P r.1.dag step prev out) (N0 : Prop) (h : Core P fns N0 [] r) :
    Done P fns N0 [] (onStageCompleteBody P fns ord step prev out complete r) := by
  have hW := hP.wf2.wf
  -- recording the stage in `finished` changes nothing the invariant speaks of
  have hc1 : ∀ {g}, r.1.dag.resolve (stageNodeId step prev) St.resolved = .ok g → Core P fns N0 [] (stageDone step prev g r) :=
    fun hok => (h.setDag_resolve hok (by decide) (stage_not_output hW hl.1)).same (.of_eq rfl rfl rfl rfl rfl)
  rcases (stageEnd_of_eq rfl).legal hP.wf2 hg hd hl with ⟨g, _, hok, _, hr⟩ | ⟨oid, v, g, g2, ho, hok, hok2, _, _, hr⟩ <;>
    rw [hr]
  · exact finishStage_core hP fns ord hord hall step complete (hc1 hok)
  · have hoid := (hl.2.2.2.2 oid v ho).1
    have hc2 : Core P fns N0 [] (stageDone step prev g2 r) :=
      (Core.setDag_resolve (hc1 hok) hok2 (by decide) (stageOutput_not_output hW hoid)).same (.of_eq rfl rfl rfl rfl rfl)
    exact finishStage_core hP fns ord hord hall step complete
      ((markOutputsUnres_core hW step prev (some oid) hc2).same (.of_eq rfl rfl rfl rfl rfl))

/-- `start` establishes the graph part of the invariant: the input node is resolved, what can be processed is ready -/
theorem react_start_core (hP : P.WF3) (fns : Fns) (ord : Order) (hord : OrdOK ord) (hall : OrdAll ord)
    (s : LoopState) (input : Val) (hi : LoopDagInv P s) (hd : s.dead = false) (hl : LegalEvent P s (.start input))
    (N : Prop) (hout : OutOK P fns N s) : Done P fns N [] (react P fns ord s (.start input)) := by
  obtain ⟨_, hallw⟩ := hl
  have hwait : ∀ {x m}, s.dag.pushStarting.find? x = some m → m.status = St.waiting :=
    fun hm => hallw _ (Graph.find?_some hm).1
  -- the input node exists and can be resolved
  obtain ⟨n0, hn0⟩ := Graph.has_iff.1 hP.has_input
  obtain ⟨n, hn⟩ := Graph.find?_of_ids hi.ids hn0
  have hinv0 : s.dag.pushStarting.Inv := Graph.inv_pushStarting hi.inv
  have hcl : s.dag.pushStarting.RClosed := fun x m hm hms => by rw [hwait hm] at hms; cases hms
  obtain ⟨g, hok, _⟩ := Graph.resolve_ok hinv0 hcl .resolved hn (hwait hn) (by decide)
    (fun _ => hP.wf2.closedAt_input hi.edges n)
  have hhas : s.dag.pushStarting.has "input" = true := Graph.has_iff.2 ⟨n, hn⟩
  have hreact : react P fns ord s (.start input) =
      notifySteps P fns ord (notifyFuel P) ({ s with data := initData P input, dag := g }, []) := by
    simp [react, hd, hhas, hok]
  rw [hreact]
  have hle := GLe.resolve hinv0 hok
  obtain ⟨hrd, hnode⟩ := Graph.resolve_adv hinv0 hok
  have hin : statusIs g "input" St.resolved := Graph.resolve_status_self (by decide) hok
  have hne : ∀ {x n'} {st : St}, g.find? x = some n' → n'.status = st → st ≠ St.resolved → x ≠ "input" := by
    rintro x n' st hn' hs hst rfl
    exact hst (statusIs_unique ⟨n', hn', hs⟩ hin)
  have hgrok : GrOK P ({ s with data := initData P input, dag := g }) [] := by
    refine ⟨⟨hle.inv, hle.edges.trans hi.edges, hle.ids.trans hi.ids⟩, ?_, ?_, (fun _ _ hm => nomatch hm), hin, ?_⟩
    · intro x n' hn' _ hwt hsoft
      left
      obtain ⟨m, hm, h1, _⟩ := hnode x n' hn' (hne hn' hwt (by decide))
      rcases h1 hwt hsoft with h2 | ⟨_, h3⟩
      · exact h2
      · obtain ⟨hmm, hmid⟩ := Graph.find?_some hm
        exact hrd x (hmid ▸ Graph.mem_pushStarting_iff.2 (.inr ⟨_, hmm, h3, rfl⟩))
    · intro x n' hn' hx hu
      left
      obtain ⟨m, hm, _, h1⟩ := hnode x n' hn' (hne hn' hu (by decide))
      rcases h1 hu with h2 | h2
      · exact h2
      · rw [hwait hm] at h2; cases h2
    · refine Graph.resolve_uj hinv0 (fun x m hm _ hu => ?_) hok (fun h => nomatch h)
      rw [hwait hm] at hu; cases hu
  -- field by field, as in `notifySteps_core`: `pushStarting` touches `ready` alone
  have hout0 : OutOK P fns N ({ s with data := initData P input, dag := s.dag.pushStarting }) :=
    ⟨hout.resolved_done, hout.res_node, hout.done_res, hout.wsub, hout.nmo⟩
  refine notify_core hP fns ord hord hall ⟨hgrok, ?_⟩
  exact (hout0.resolve (s' := { s with data := initData P input, dag := g }) hinv0 hok rfl rfl rfl rfl
    (fun _ ⟨it, hit, hk⟩ => by rw [hP.wf2.input_kind it hit] at hk; cases hk)).mono Or.inl

theorem react_core (hP : P.WF3) (fns : Fns) (ord : Order) (hord : OrdOK ord) (hall : OrdAll ord)
    (s : LoopState) (e : Event) (hi : LoopDagInv P s) (hs : LoopSafeInv P s) (hd : s.dead = false)
    (hl : LegalEvent P s e) (N : Prop) (hc : CoreOK P fns N s []) (hr : s.dag.ready = []) :
    Done P fns N [] (react P fns ord s e) := by
  have hW := hP.wf2.wf
  have h0 : Core P fns N [] (s, []) := hc.congr rfl rfl rfl rfl Or.inl
  have hg0 : Good P (s, []) := ⟨GSafe.of_inv hi hs, fun _ h => nomatch h⟩
  cases e with
  | start input => exact react_start_core hP fns ord hord hall s input hi hd hl N hc.out
  | stageChange step prev out busy =>
    cases prev with
    | none =>
      rw [react_stageChange_none]
      exact Or.inr ⟨h0, hr⟩
    | some p =>
      rw [react_stageChange hd]
      exact checkDeadlock_done (onStageCompleteBody_core hP fns ord hord hall step p out false (s, []) hg0 hd hl N h0) 3 busy
  | stepComplete step prev out busy =>
    rw [react_stepComplete hd]
    exact checkDeadlock_done (onStageCompleteBody_core hP fns ord hord hall step prev out true (s, []) hg0 hd hl N h0) 3 busy
  | stageFail step stage =>
    rw [react_stageFail hd]
    split
    · rename_i hdd
      exact Or.inl (Or.inl hdd)
    · exact notify_core hP fns ord hord hall
        (markNode_core _ (markOutputsUnres_core hW step stage none h0) (stage_not_output hW hl.1))
  | tick retries busy =>
    rw [react_tick hd]
    split
    · exact Or.inr ⟨h0, hr⟩
    · exact checkDeadlock_done (Or.inr ⟨h0, hr⟩) retries busy
  | drain =>
    rw [react_drain hd]
    exact Or.inr ⟨h0.same (.of_eq rfl rfl rfl rfl rfl), hr⟩

theorem mem_initW (hP : P.WF3) {x : String} : x ∈ (LoopState.init P).waitingOutputs ↔ isOutputNode P x := by
  show x ∈ (P.items.filter (fun p => p.2.kind = .output)).map (·.1) ↔ _
  constructor
  · intro h
    obtain ⟨p, hp, rfl⟩ := List.mem_map.1 h
    rw [List.mem_filter] at hp
    exact ⟨p.2, lookup_of_mem_nodup hP.items_nodup hp.1, by simpa using hp.2⟩
  · rintro ⟨it, hit, hk⟩
    refine List.mem_map.2 ⟨(x, it), ?_, rfl⟩
    rw [List.mem_filter]
    exact ⟨mem_of_lookup hit, by simpa using hk⟩

theorem init_outOK (hP : P.WF) (N : Prop) : OutOK P fns N (LoopState.init P) :=
  ⟨fun x _ hs => absurd hs (init_not_resolved P hP x), (fun _ _ h => nomatch h), rfl, fun _ h => h,
    fun h => Or.inr (Or.inr h)⟩

/-- `acts`: the actions of the whole history so far -/
def RunOK (P : Prepared) (fns : Fns) (s : LoopState) (acts : List Action) : Prop :=
  LoopDagInv P s ∧ LoopSafeInv P s ∧ s.dead = false ∧
    (hasEF acts ∨ (CoreOK P fns (hasNMO acts) s [] ∧ s.dag.ready = []))

theorem runOK_react (hP : P.WF3) {ord : Order} (hord : OrdOK ord) (hnd : OrdNodup ord) {s : LoopState} {e : Event}
    (hi : LoopDagInv P s) (hs : LoopSafeInv P s) (hd : s.dead = false) (hl : LegalEvent P s e) (acc : List Action)
    (h : hasEF acc ∨ Done P fns (hasNMO acc) [] (react P fns ord s e)) :
    RunOK P fns (react P fns ord s e).1 (acc ++ (react P fns ord s e).2) := by
  obtain ⟨⟨hi', hs', hd'⟩, _⟩ := react_legal_inv P fns ord hord hnd hP.wf2 s e ⟨hi, hs, hd⟩ hl
  refine ⟨hi', hs', hd', ?_⟩
  rcases h with h | (h | h) | ⟨h, hr⟩
  · exact Or.inl (hasEF_append.2 (Or.inl h))
  · rw [hd'] at h; cases h
  · exact Or.inl (hasEF_append.2 (Or.inr h))
  · exact Or.inr ⟨⟨h.gr, h.out.mono hasNMO_append.2⟩, hr⟩

theorem run_core (hP : P.WF3) (fns : Fns) (ord : Order) (hord : OrdOK ord) (hnd : OrdNodup ord)
    (hall : OrdAll ord) (input : Val) (rest : List Event)
    (hl : LegalHistory P fns ord (LoopState.init P) (.start input :: rest)) :
    RunOK P fns (run P fns ord (.start input :: rest)).1 (run P fns ord (.start input :: rest)).2 := by
  have hW := hP.wf2.wf
  have hi := init_dag_inv P hW
  have hs := init_safe_inv P hW
  refine runFrom_acc (Q := RunOK P fns) (H := LegalHistory P fns ord) (E := LegalEvent P) (fun _ _ _ h => h) ?_ rest _ _
    (runOK_react hP hord hnd hi hs rfl hl.1 []
      (Or.inr (react_start_core hP fns ord hord hall _ input hi rfl hl.1 _ (init_outOK hW _)))) hl.2
  rintro s acc e ⟨hi, hs, hd, h⟩ hl
  exact runOK_react hP hord hnd hi hs hd hl acc
    (h.imp_right fun ⟨hc, hr⟩ => react_core hP fns ord hord hall s e hi hs hd hl _ hc hr)

theorem core_all_failed (hP : P.WF3) {N : Prop} {s : LoopState} (hc : CoreOK P fns N s [])
    (hr : s.dag.ready = []) (hall : ∀ x, isOutputNode P x → statusIs s.dag x St.unres) :
    s.result = none ∧ N := by
  have hres : s.result = none := by
    cases hres : s.result with
    | none => rfl
    | some p =>
      obtain ⟨x, it, d, h1, h2, _, _, h5, _⟩ := hc.out.res_node p.1 p.2 hres
      cases statusIs_unique h5 (hall x ⟨it, h1, h2⟩)
  refine ⟨hres, ?_⟩
  have hw : s.waitingOutputs = [] := by
    rw [List.eq_nil_iff_forall_not_mem]
    intro x hx
    have hxo := (mem_initW hP).1 (hc.out.wsub x hx)
    obtain ⟨n, hn, hs⟩ := hall x hxo
    rcases hc.gr.failed x n hn hxo hs with h1 | h1 | h1
    · rw [hr] at h1; cases h1
    · cases h1
    · exact h1 hx
  rcases hc.out.nmo hw with h1 | h1 | h1
  · rw [hc.out.done_res, hres] at h1; cases h1
  · exact h1
  · obtain ⟨o, it, hit, hk⟩ := hP.has_output
    have := (mem_initW hP).2 ⟨it, hit, hk⟩
    rw [h1] at this; cases this

/-- `o` can be produced in `g`: its required dependencies are resolved and, if it has alternatives (`or`), one of them is -/
def Producible (P : Prepared) (g : Graph String) (o : String) : Prop :=
  (∀ ed ∈ P.dag.edges, ed.2.1 = o → ed.2.2 = Dep.and → statusIs g ed.1 St.resolved) ∧
  ((∃ ed ∈ P.dag.edges, ed.2.1 = o ∧ ed.2.2 = Dep.or) →
    ∃ ed ∈ P.dag.edges, ed.2.1 = o ∧ ed.2.2 = Dep.or ∧ statusIs g ed.1 St.resolved)

theorem Producible.not_just {s : LoopState} (hd : LoopDagInv P s) {o : String}
    (hp : Producible P s.dag o) : ¬ s.dag.Just o := by
  rintro (⟨e, he, h1, h2, m, hm, hs⟩ | ⟨⟨e, he, h1, h2⟩, hall⟩)
  · rw [hd.edges] at he
    cases statusIs_unique (hp.1 e he h1 h2) ⟨m, hm, hs⟩
  · rw [hd.edges] at he
    obtain ⟨e', he', h1', h2', hs'⟩ := hp.2 ⟨e, he, h1, h2⟩
    obtain ⟨m, hm, hs⟩ := hall e' (hd.edges ▸ he') h1' h2'
    cases statusIs_unique hs' ⟨m, hm, hs⟩

theorem producible_of_resolved {s : LoopState} (hd : LoopDagInv P s) (hc : ResolvedClosed s.dag)
    {x : String} (hx : statusIs s.dag x St.resolved) : Producible P s.dag x := by
  obtain ⟨n, hn, hs⟩ := hx
  obtain ⟨hnm, hnid⟩ := Graph.find?_some hn
  obtain ⟨hand, hor⟩ := hc n hnm hs
  refine ⟨?_, ?_⟩
  · intro ed he h1 h2
    exact hand ed (hd.edges ▸ he) (h1.trans hnid.symm) h2
  · rintro ⟨ed, he, h1, h2⟩
    obtain ⟨q, hq, hq2⟩ := hor ⟨ed, hd.edges ▸ he, h1.trans hnid.symm, h2⟩
    obtain ⟨d, hde, hok⟩ := hd.inv.res_edge n hnm q hq
    rw [hq2] at hok
    have := entryOk_or_left hok
    subst this
    obtain ⟨m, hm, hms⟩ := hd.inv.res_src_resolved hnm hq
    exact ⟨_, hd.edges ▸ hde, hnid, rfl, m, hm, hms⟩

/-- the state of a finished run: the invariant with the actions of the run, nothing ready, every node settled -/
structure Quiescent (P : Prepared) (fns : Fns) (r : LoopState × List Action) : Prop where
  core : CoreOK P fns (hasNMO r.2) r.1 []
  ready : r.1.dag.ready = []
  settled : ∀ x, Settled r.1.dag x
  closed : ResolvedClosed r.1.dag

theorem Quiescent.output_status (hP : P.WF3) {r : LoopState × List Action} (q : Quiescent P fns r) {x : String}
    (hx : isOutputNode P x) :
    (statusIs r.1.dag x St.resolved ∧ Producible P r.1.dag x) ∨ (statusIs r.1.dag x St.unres ∧ ¬ Producible P r.1.dag x) := by
  have hd := q.core.gr.dinv
  obtain ⟨it, hit, hk⟩ := hx
  obtain ⟨n0, hn0⟩ := Graph.has_iff.1 (hP.output_is_node x it hit hk)
  obtain ⟨n, hn⟩ := Graph.find?_of_ids hd.ids hn0
  cases hs : n.status with
  | waiting => exact absurd ⟨n, hn, hs⟩ (q.settled x)
  | resolved => exact Or.inl ⟨⟨n, hn, hs⟩, producible_of_resolved hd q.closed ⟨n, hn, hs⟩⟩
  | unres => exact Or.inr ⟨⟨n, hn, hs⟩, fun hp => hp.not_just hd (q.core.gr.uj x n hn (fun h => h ⟨it, hit, hk⟩) hs)⟩

theorem Quiescent.verdict (hP : P.WF3) {r : LoopState × List Action} (q : Quiescent P fns r) :
    r.1.result.isSome = true ∨ hasNMO r.2 := by
  by_cases hex : ∃ x, isOutputNode P x ∧ statusIs r.1.dag x St.resolved
  · obtain ⟨x, hx, hs⟩ := hex
    exact Or.inl (q.core.out.done_res ▸ q.core.out.resolved_done x hx hs)
  · refine Or.inr (core_all_failed hP q.core q.ready fun x hx => ?_).2
    rcases q.output_status hP hx with h | h
    · exact absurd ⟨x, hx, h.1⟩ hex
    · exact h.1

theorem run_step_nodes_settled (fns : Fns) (ord : Order) (hord : OrdOK ord) (hnd : OrdNodup ord) (hP : P.WF2)
    (h : List Event) (hl : LegalHistory P fns ord (LoopState.init P) h) (hr : ∀ e ∈ h, EventReports P e)
    (hall : ∀ step stage, P.declares step stage → ∃ prev out busy, Event.stepComplete step prev out busy ∈ h) :
    ∀ id, IsStepNode P id → Settled (run P fns ord h).1.dag id := by
  rintro id ⟨step, stage, hd, hid⟩
  have := (runFrom_settle P fns ord hord hnd hP h _ (init_dag_inv P hP.wf) (init_safe_inv P hP.wf) rfl
    (init_fin_conv P) hl hr).2 step (hall step stage hd) stage hd
  rcases hid with rfl | ⟨o, ho, rfl⟩
  · exact this.1
  · exact this.2 o ho

/-- every node is settled, by induction along the edges of the acyclic graph: a node of a step by
`run_step_nodes_settled`, the input node and the nodes the loop resolves itself by the invariant -/
theorem run_quiescent (hP : P.WF3) (fns : Fns) (ord : Order) (hord : OrdOK ord) (hnd : OrdNodup ord)
    (hall : OrdAll ord) (input : Val) (rest : List Event)
    (hl : LegalHistory P fns ord (LoopState.init P) (.start input :: rest))
    (hr : ∀ e ∈ rest, EventReports P e)
    (hcomp : ∀ step stage, P.declares step stage → ∃ prev out busy, Event.stepComplete step prev out busy ∈ rest) :
    hasEF (run P fns ord (.start input :: rest)).2 ∨ Quiescent P fns (run P fns ord (.start input :: rest)) := by
  have hW := hP.wf2.wf
  obtain ⟨hd, hsafe, _, h⟩ := run_core hP fns ord hord hnd hall input rest hl
  refine h.imp_right fun ⟨hc, hrd⟩ => ⟨hc, hrd, ?_, hsafe.closed⟩
  have hstep := run_step_nodes_settled fns ord hord hnd hP.wf2 _ hl
    (fun e he => (List.mem_cons.1 he).elim (fun h => h ▸ trivial) (hr e))
    (fun step stage hdd => (hcomp step stage hdd).imp fun _ => Exists.imp fun _ => Exists.imp fun _ =>
      List.mem_cons_of_mem _)
  refine Graph.dag_induction hW.inv.edge_nodes hP.acyclic (fun x => Settled _ x) ?_
  rintro x hpred ⟨n, hn, hw⟩
  obtain ⟨it, hit⟩ := item_of_node hW.items_nodes hd.ids hn
  -- a node the loop resolves itself has no outstanding dependency left, so it would be ready
  have hproc : isProc P x → False := by
    intro hp
    have hout : n.out = [] :=
      no_outstanding_of_settled hd.inv hn (fun ed he hto => hpred ed (hd.edges ▸ he) hto)
    rcases hc.gr.proc x n hn hp hw (by rw [hout]; exact fun p hp => nomatch hp) with h1 | h1
    · rw [hrd] at h1; cases h1
    · cases h1
  cases hk : it.kind with
  | input =>
    cases hP.input_id x it hit hk
    cases statusIs_unique hc.gr.input_done ⟨n, hn, hw⟩
  | stage =>
    exact hstep x ⟨it.step, it.stage, hP.stage_declared x it hit hk, Or.inl (hW.stage_id x it hit hk)⟩ ⟨n, hn, hw⟩
  | stageOutput =>
    obtain ⟨hx, ho⟩ := hW.output_id x it hit hk
    exact hstep x ⟨it.step, it.stage, declares_of_mem_outputsOf ho, Or.inr ⟨it.output, ho, hx⟩⟩ ⟨n, hn, hw⟩
  | output => exact hproc (Or.inr ⟨it, hit, hk⟩)
  | group => exact hproc (Or.inl ⟨it, hit, hk⟩)

end Arca.Model
