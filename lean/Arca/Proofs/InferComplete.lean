/-
`infer.Type` refuses exactly the literals that are not `typable`.
-/
import Arca.Proofs.InferSound

namespace Arca.Proofs.InferComplete
open Arca.Model.Infer Arca.Proofs.InferSound

mutual
  theorem infer_isSome : (v : Lit) → (infer v).isSome = typable v
    | .null | .str _ | .int .. | .float | .bool _ => rfl
    | .list xs => by
      simp only [infer, typable, show typableItems xs none = _ from (inferItems_isSome xs none).symm]
      cases inferItems xs none with
      | none => rfl
      | some r => cases r <;> rfl
    | .obj fs => by
      simp only [infer, typable, ← inferFields_isSome fs]
      cases inferFields fs <;> rfl
  theorem inferItems_isSome : (xs : Lits) → (found : Option ITy) →
      (inferItems xs found).isSome = typableItems xs (found.map ITy.tid)
    | .nil, found => by simp [inferItems, typableItems]
    | .cons x rest, found => by
      simp only [inferItems, typableItems, ← infer_isSome x]
      cases hi : infer x with
      | none => rfl
      | some t =>
        simp only [litTid_of_infer hi, Option.isSome_some, Bool.true_and]
        cases found with
        | none => exact inferItems_isSome rest (some t)
        | some f =>
          have hr := inferItems_isSome rest (some f)
          by_cases hft : f.tid = t.tid
          · simpa [hft] using hr
          · simp [hft, Ne.symm hft]
  theorem inferFields_isSome : (fs : Fields) → (inferFields fs).isSome = typableFields fs
    | .nil => by simp [inferFields, typableFields]
    | .cons k v rest => by
      simp only [inferFields, typableFields, ← infer_isSome v, ← inferFields_isSome rest]
      cases infer v
      · rfl
      · cases inferFields rest <;> rfl
end

end Arca.Proofs.InferComplete
