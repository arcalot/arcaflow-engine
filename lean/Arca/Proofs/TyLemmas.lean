/-
`mapE`, association lists and property names of `Arca.Model.Ty`.
-/
import Arca.Model.Ty

namespace Arca.Proofs.Ty
open Arca.Model

theorem mapE_isOk {α β ε : Type} (f : α → Except ε β) (p : α → Bool) (xs : List α)
    (h : ∀ x ∈ xs, tyOk (f x) = p x) : tyOk (mapE f xs) = xs.all p := by
  induction xs with
  | nil => rfl
  | cons x xs ih =>
    rw [List.all_cons, ← h x (by simp), ← ih (fun y hy => h y (by simp [hy]))]
    simp only [mapE]
    cases f x
    · rfl
    · cases mapE f xs <;> rfl

theorem mapE_ok {α β ε : Type} {f : α → Except ε β} {xs : List α} {ys : List β} (h : mapE f xs = .ok ys) :
    ys.length = xs.length ∧ ∀ y ∈ ys, ∃ x ∈ xs, f x = .ok y := by
  induction xs generalizing ys with
  | nil => cases h; simp
  | cons x xs ih =>
    simp only [mapE] at h
    split at h
    · cases h
    · next y hfx =>
      split at h
      · cases h
      · next ys' hm =>
        cases h
        obtain ⟨hl, hall⟩ := ih hm
        refine ⟨by simp [hl], fun z hz => ?_⟩
        rcases List.mem_cons.mp hz with rfl | hz
        · exact ⟨x, by simp, hfx⟩
        · obtain ⟨x', hx', hfx'⟩ := hall z hz
          exact ⟨x', by simp [hx'], hfx'⟩

theorem mapE_fixed {α ε : Type} (f : α → Except ε α) (xs : List α) (h : ∀ x ∈ xs, f x = .ok x) :
    mapE f xs = .ok xs := by
  induction xs with
  | nil => simp [mapE]
  | cons x xs ih =>
    have hx := h x (by simp)
    have ih' := ih (fun y hy => h y (by simp [hy]))
    simp [mapE, hx, ih']

theorem given_eq_none {n : String} {d : Option Val} {kvs : List (String × Val)} (h : given n d kvs = none) : d = none := by
  unfold given at h
  split at h
  · cases h
  · exact h

theorem hasName_cons (m n : String) (r : Bool) (d : Option Val) (ty : Ty) (rest : Props) :
    (Props.cons n r d ty rest).hasName m = (m == n || rest.hasName m) := by
  simp [Props.hasName]

theorem hasName_keys_cons {n : String} {r : Bool} {d : Option Val} {ty : Ty} {rest : Props} {out : List (String × Val)}
    (hk : ∀ kv ∈ out, rest.hasName kv.1 = true) :
    (∀ kv ∈ out, (Props.cons n r d ty rest).hasName kv.1 = true) ∧
    ∀ w, ∀ kv ∈ (n, w) :: out, (Props.cons n r d ty rest).hasName kv.1 = true := by
  simp +contextual [hasName_cons, hk]

end Arca.Proofs.Ty
