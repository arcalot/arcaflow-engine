/-
Why the panic-freedom statements of `LoopSafe.lean` have the two hypotheses that concern `markRemainingStagesUnresolvable`
(called when a step reports its completion: repair of finding F11).  Each is a THEOREM refuting the statement without the
hypothesis; the reactions are evaluated by the kernel (`decide +kernel`).
-/
import Arca.Proofs.LoopSafeCex

namespace Arca.Model.SafeCex

/-- `Prepared.WF2` without `stage_unamb` -/
structure WF2Prev (P : Prepared) : Prop where
  wf : P.WF
  output_nodes : ∀ step stage o, P.declares step stage → o ∈ P.outputsOf step stage →
      (lookup (outputNodeId step stage o) P.items).isSome = true ∧
      (∀ ed ∈ P.dag.edges, ed.2.1 = outputNodeId step stage o → ed.1 = stageNodeId step stage ∧ ed.2.2 = Dep.and)
  stage_data_map : ∀ id it d, lookup id P.items = some it → it.kind = Kind.stage → it.data = some d →
      ∃ kvs, d = InVal.map kvs
  stage_ids_nonempty : ∀ id it, lookup id P.items = some it → it.kind = Kind.stage → it.step ≠ "" ∧ it.stage ≠ ""
  kinds_handled : ∀ id it, lookup id P.items = some it → it.data.isSome = true → it.kind = Kind.stage ∨ it.kind = Kind.output
  input_no_deps : ∀ ed ∈ P.dag.edges, ed.2.1 ≠ "input"
  input_kind : ∀ it, lookup "input" P.items = some it → it.kind = Kind.input

theorem WF2Orig.wf2prev {P : Prepared} (h : WF2Orig P) (h1 : ∀ ed ∈ P.dag.edges, ed.2.1 ≠ "input")
    (h2 : inputItemB P = true) : WF2Prev P :=
  ⟨h.wf, h.output_nodes, h.stage_data_map, h.stage_ids_nonempty, h.kinds_handled, h1, fun _ => inputItemB_sound h2⟩

def itT : Item := { kind := .stage, step := "a", stage := "t" }

/-- step `a` with the stages `s` and `t`, both depending on the input -/
def PG : Prepared :=
  { dag := ⟨[nd "input" [], nd "steps.a.s" [("input", .and)], nd "steps.a.t" [("input", .and)]],
            [("input", "steps.a.s", .and), ("input", "steps.a.t", .and)], []⟩,
    items := [("input", { kind := .input }), ("steps.a.s", itS), ("steps.a.t", itT)],
    stages := [("a", [("s", []), ("t", [])])],
    errCap := 5 }

/-- `WF2` (with `stage_unamb`) is satisfiable by a step with two stages -/
theorem PG_wf2 : PG.WF2 :=
  (Plain.wf2orig (by decide +kernel)).wf2 (by decide +kernel) (by decide +kernel) (by decide +kernel)

/-- `input` and the stage node of `s` resolved, the stage node of `t` waiting and ready to be reported; nothing is
recorded in `finished` -/
def sG : LoopState :=
  { LoopState.init PG with
    dag := ⟨[⟨"input", .resolved, [], []⟩, ⟨"steps.a.s", .resolved, [], [("input", .and)]⟩,
             ⟨"steps.a.t", .waiting, [], [("input", .and)]⟩],
            [("input", "steps.a.s", .and), ("input", "steps.a.t", .and)], []⟩ }

def completeT : Event := .stepComplete "a" "t" none false

/-- `react_legal_no_panic` with the state invariant without its clause `finished` is false: the stage node of `s` is
resolved but `s` is not recorded in `finishedStages`, so the legal completion callback of `a` (last stage `t`) marks `s`
unresolvable, which the graph library refuses: `panic markStageNodeUnresolvable` -/
theorem react_needs_finished_inv :
    ¬ (∀ (P : Prepared) (fns : Fns) (ord : Order), OrdOK ord → OrdNodup ord → P.WF2 → ∀ (s : LoopState) (e : Event),
        LoopDagInv P s → ResolvedClosed s.dag → s.dag.ready.Nodup →
        (∀ id ∈ s.dag.ready, isGroup P id → ¬ statusIs s.dag id St.resolved) →
        (∀ n ∈ s.dag.nodes, n.status = St.resolved → isGroup P n.id → ∀ p ∈ n.out, p.2.hard = false) →
        LegalEvent P s e →
        (∀ a ∈ (react P fns ord s e).2, a.isPanic = false) ∧ ResolvedClosed (react P fns ord s e).1.dag) := fun H =>
  have hng : ∀ p ∈ PG.items, p.2.kind ≠ Kind.group := by decide +kernel
  not_nopanic (by decide +kernel : hasPanic (react PG fns0 id sG completeT).2 = true)
    (H PG fns0 id ordId_ok ordId_nodup PG_wf2 sG completeT ⟨(by constructor <;> decide +kernel), rfl, rfl⟩
      (by decide +kernel) List.nodup_nil (fun _ h => nomatch h)
      (fun _ _ _ ⟨_, hit, hk⟩ => absurd hk (hng _ (mem_of_lookup hit)))
      (legalEventB_sound (by decide +kernel))).1

/-- with the stage recorded, the same callback is fine -/
theorem ceG_recorded_fine :
    hasPanic (react PG fns0 id { sG with finished := [("a", "s")] } completeT).2 = false := by decide +kernel

def itBC : Item := { kind := .stage, step := "a.b", stage := "c" }
def itX : Item := { kind := .stage, step := "a", stage := "x" }

/-- step `a` with the stages `b.c` and `x`, step `a.b` with the stage `c`.  The stage node of (`a.b`, `c`) has the id
`steps.a.b.c`, which is also the id the loop computes for (`a`, `b.c`). -/
def PH : Prepared :=
  { dag := ⟨[nd "input" [], nd "steps.a.b.c" [("input", .and)], nd "steps.a.x" [("input", .and)]],
            [("input", "steps.a.b.c", .and), ("input", "steps.a.x", .and)], []⟩,
    items := [("input", { kind := .input }), ("steps.a.b.c", itBC), ("steps.a.x", itX)],
    stages := [("a", [("b.c", []), ("x", [])]), ("a.b", [("c", [])])],
    errCap := 5 }

/-- `PH` satisfies every clause of `WF2` but `stage_unamb` … -/
theorem PH_wf2prev : WF2Prev PH := (Plain.wf2orig (by decide +kernel)).wf2prev (by decide +kernel) (by decide +kernel)

/-- … but its stage node ids are ambiguous -/
theorem PH_not_unamb : ¬ PH.StageUnamb := by
  intro h
  have : ∀ it ∈ lookup (stageNodeId "a" "b.c") PH.items, it.step = "a" :=
    fun it hit => (h "a" "b.c" it (declaresB_iff.1 (by decide +kernel)) hit).1
  revert this
  decide +kernel

def histH : List Event :=
  [.start .null, .stageChange "a.b" (some "c") none false, .stepComplete "a" "x" none false]

/-- `legal_history_never_panics` with `WF2Prev` for `WF2` is false: `a.b` legally finishes `c`, then `a` legally completes
with `x`, and the loop marks "its" never-finished stage `b.c` — the resolved node `steps.a.b.c` of `a.b` — unresolvable:
panic -/
theorem hist_needs_stage_unamb :
    ¬ (∀ (P : Prepared) (fns : Fns) (ord : Order), OrdOK ord → OrdNodup ord → WF2Prev P → ∀ h : List Event,
        LegalHistory P fns ord (LoopState.init P) h →
        (∀ a ∈ (run P fns ord h).2, a.isPanic = false) ∧ (run P fns ord h).1.dead = false) := fun H =>
  not_nopanic (by decide +kernel : hasPanic (run PH fns0 id histH).2 = true)
    (H PH fns0 id ordId_ok ordId_nodup PH_wf2prev _ (legalHistoryB_sound _ _ (by decide +kernel))).1

/-- a normal run of `PG`: both stages gone through, then completion -/
theorem PG_run_fine :
    hasPanic (run PG fns0 id [.start .null, .stageChange "a" (some "s") none false,
      .stepComplete "a" "t" none false]).2 = false := by decide +kernel

end Arca.Model.SafeCex
