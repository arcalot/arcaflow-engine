/-
Facts about the list-level helpers of the dependency-graph model.
-/
import Arca.Model.Dgraph
import Arca.Proofs.ListLemmas

set_option linter.unusedSectionVars false

namespace Arca.Model

variable {ι : Type} [DecidableEq ι]

theorem Graph.find?_some {g : Graph ι} {x : ι} {n : Node ι} (h : g.find? x = some n) :
    n ∈ g.nodes ∧ n.id = x := List.of_find?_decide h

theorem Graph.find?_none_iff {g : Graph ι} {x : ι} : g.find? x = none ↔ x ∉ g.nodes.map (·.id) := by
  unfold Graph.find?
  simp only [List.find?_eq_none, decide_eq_true_eq, List.mem_map, not_exists, not_and]

theorem Graph.has_iff_mem_ids {g : Graph ι} {x : ι} : g.has x = true ↔ x ∈ g.nodes.map (·.id) := by
  simp [Graph.has, Graph.find?]

theorem Graph.find?_unique {g : Graph ι} {x : ι} {a b : Node ι} (h1 : g.find? x = some a) (h2 : g.find? x = some b) :
    a = b := Option.some.inj (h1.symm.trans h2)

theorem Graph.find?_of_mem {g : Graph ι} (hnd : (g.nodes.map (·.id)).Nodup) {n : Node ι} (h : n ∈ g.nodes) :
    g.find? n.id = some n := by
  obtain ⟨m, hm⟩ : ∃ m, g.find? n.id = some m :=
    Option.isSome_iff_exists.1 (List.find?_isSome.2 ⟨n, h, decide_eq_true rfl⟩)
  rw [hm, List.eq_of_nodup_map hnd (Graph.find?_some hm).1 h (Graph.find?_some hm).2]

theorem Graph.has_iff {g : Graph ι} {x : ι} : g.has x = true ↔ ∃ n, g.find? x = some n :=
  Option.isSome_iff_exists

theorem Graph.has_false_iff {g : Graph ι} {x : ι} : g.has x = false ↔ g.find? x = none := by
  unfold Graph.has
  cases g.find? x <;> simp

theorem Node.id_replace (n' m : Node ι) : (if m.id = n'.id then n' else m).id = m.id := by
  split
  · exact Eq.symm ‹_›
  · rfl

theorem Graph.setNode_ids (g : Graph ι) (n' : Node ι) :
    (g.setNode n').nodes.map (·.id) = g.nodes.map (·.id) :=
  (List.map_map ..).trans (List.map_congr_left fun m _ => Node.id_replace n' m)

@[simp] theorem Graph.setNode_edges (g : Graph ι) (n' : Node ι) : (g.setNode n').edges = g.edges := rfl
@[simp] theorem Graph.setNode_ready (g : Graph ι) (n' : Node ι) : (g.setNode n').ready = g.ready := rfl

theorem Graph.setNode_ready_comm (g : Graph ι) (r : List ι) (x : Node ι) :
    ({ g with ready := r } : Graph ι).setNode x = { g.setNode x with ready := r } := rfl

theorem Graph.find?_setNode (g : Graph ι) (n' : Node ι) (x : ι) :
    (g.setNode n').find? x = (g.find? x).map (fun m => if m.id = n'.id then n' else m) := by
  refine List.find?_map.trans (congrArg (Option.map _) (congrArg (g.nodes.find? ·) (funext fun m => ?_)))
  exact congrArg (fun i => decide (i = x)) (Node.id_replace n' m)

theorem Graph.find?_setNode_self {g : Graph ι} {n n' : Node ι} (h : g.find? n'.id = some n) :
    (g.setNode n').find? n'.id = some n' := by
  rw [Graph.find?_setNode, h, Option.map_some, if_pos (Graph.find?_some h).2]

theorem Graph.find?_setNode_ne {g : Graph ι} {n' : Node ι} {x : ι} (h : x ≠ n'.id) :
    (g.setNode n').find? x = g.find? x := by
  rw [Graph.find?_setNode]
  cases hx : g.find? x with
  | none => rfl
  | some m => rw [Option.map_some, if_neg ((Graph.find?_some hx).2 ▸ h)]

theorem Graph.find?_setNode_eq {g : Graph ι} {t : ι} {n n' : Node ι} (hn : g.find? t = some n) (hid : n'.id = t)
    (x : ι) : (g.setNode n').find? x = if x = t then some n' else g.find? x := by
  subst hid
  split
  · next hx => subst hx; exact Graph.find?_setNode_self hn
  · next hx => exact Graph.find?_setNode_ne hx

theorem Graph.find?_setStatus {g : Graph ι} {t : ι} {n : Node ι} (hn : g.find? t = some n) (st : St) (x : ι) :
    (g.setNode { n with status := st }).find? x = if x = t then some { n with status := st } else g.find? x :=
  Graph.find?_setNode_eq (n' := { n with status := st }) hn (Graph.find?_some hn).2 x

theorem Graph.has_setNode (g : Graph ι) (n' : Node ι) (x : ι) : (g.setNode n').has x = g.has x := by
  unfold Graph.has
  rw [Graph.find?_setNode, Option.isSome_map]

theorem Graph.mem_setNode {g : Graph ι} {n' m : Node ι} (hm : m ∈ (g.setNode n').nodes) :
    (m ∈ g.nodes ∧ m.id ≠ n'.id) ∨ m = n' := by
  obtain ⟨k, hk, rfl⟩ := List.mem_map.1 hm
  split
  · exact .inr rfl
  · exact .inl ⟨hk, ‹_›⟩

theorem List.map_setNode_collapse (l : List (Node ι)) (a b : Node ι) (h : a.id = b.id) :
    (l.map (fun m => if m.id = a.id then a else m)).map (fun m => if m.id = b.id then b else m) =
      l.map (fun m => if m.id = b.id then b else m) := by
  refine (List.map_map ..).trans (List.map_congr_left fun m _ => ?_)
  show (if (if m.id = a.id then a else m).id = b.id then b else _) = _
  by_cases hm : m.id = a.id
  · rw [if_pos hm, if_pos h, if_pos (hm.trans h)]
  · rw [if_neg hm]

theorem Graph.setNode_setNode (g : Graph ι) (a b : Node ι) (h : a.id = b.id) :
    (g.setNode a).setNode b = g.setNode b :=
  congrArg (fun l => ({ g with nodes := l } : Graph ι)) (List.map_setNode_collapse g.nodes a b h)

@[simp] theorem Graph.succs_setNode (g : Graph ι) (n' : Node ι) (x : ι) : (g.setNode n').succs x = g.succs x := rfl

theorem Graph.mem_succs {g : Graph ι} {x c : ι} : c ∈ g.succs x ↔ ∃ d, (x, c, d) ∈ g.edges := by
  unfold Graph.succs
  simp only [List.mem_map, List.mem_filter, decide_eq_true_eq]
  constructor
  · rintro ⟨⟨a, b, d⟩, ⟨hm, rfl⟩, rfl⟩
    exact ⟨d, hm⟩
  · rintro ⟨d, hm⟩
    exact ⟨(x, c, d), ⟨hm, rfl⟩, rfl⟩

theorem Graph.hasEdge_iff {g : Graph ι} {a b : ι} : g.hasEdge a b = true ↔ ∃ d, (a, b, d) ∈ g.edges := by
  unfold Graph.hasEdge
  simp only [List.any_eq_true, decide_eq_true_eq]
  constructor
  · rintro ⟨⟨x, y, d⟩, hm, rfl, rfl⟩
    exact ⟨d, hm⟩
  · rintro ⟨d, hm⟩
    exact ⟨(a, b, d), hm, rfl, rfl⟩

theorem edge_type_unique {E : List (ι × ι × Dep)} (hnd : (E.map (fun e => (e.1, e.2.1))).Nodup)
    {a b : ι} {d d' : Dep} (h : (a, b, d) ∈ E) (h' : (a, b, d') ∈ E) : d = d' :=
  (Prod.mk.inj (Prod.mk.inj (List.eq_of_nodup_map hnd h h' rfl)).2).2

def keys (l : List (ι × Dep)) : List ι := l.map (·.1)

theorem mem_keys {a : ι} {l : List (ι × Dep)} : a ∈ keys l ↔ ∃ p ∈ l, p.1 = a := List.mem_map

theorem mem_keys_of_mem {p : ι × Dep} {l : List (ι × Dep)} (h : p ∈ l) : p.1 ∈ keys l :=
  List.mem_map_of_mem h

theorem keys_append (l l' : List (ι × Dep)) : keys (l ++ l') = keys l ++ keys l' := List.map_append

theorem alookup_some_mem {k : ι} {l : List (ι × Dep)} {d : Dep} (h : alookup k l = some d) : (k, d) ∈ l := by
  induction l with
  | nil => cases h
  | cons p l ih =>
    obtain ⟨k', v⟩ := p
    unfold alookup at h
    split at h
    · next hk => cases h; exact hk ▸ List.mem_cons_self
    · exact List.mem_cons_of_mem _ (ih h)

theorem alookup_of_mem_keys {k : ι} {l : List (ι × Dep)} (h : k ∈ keys l) : ∃ d, alookup k l = some d := by
  induction l with
  | nil => cases h
  | cons p l ih =>
    obtain ⟨k', v⟩ := p
    unfold alookup
    split
    · exact ⟨v, rfl⟩
    · next hne => exact ih ((List.mem_cons.1 h).resolve_left hne)

theorem alookup_unique {s : ι} {l : List (ι × Dep)} {dt : Dep} (hnd : (keys l).Nodup) (h : alookup s l = some dt)
    {p : ι × Dep} (hp : p ∈ l) (hp1 : p.1 = s) : p = (s, dt) :=
  List.eq_of_nodup_map hnd hp (alookup_some_mem h) hp1

theorem mem_aerase {k : ι} {l : List (ι × Dep)} {p : ι × Dep} : p ∈ aerase k l ↔ p ∈ l ∧ p.1 ≠ k := by
  simp [aerase]

theorem keys_aerase (k : ι) (l : List (ι × Dep)) : keys (aerase k l) = (keys l).filter (fun a => a ≠ k) := by
  unfold aerase keys
  rw [List.filter_map]
  rfl

theorem mem_keys_aerase {a s : ι} {l : List (ι × Dep)} : a ∈ keys (aerase s l) ↔ a ∈ keys l ∧ a ≠ s := by
  simp [keys_aerase]

theorem nodup_keys_aerase {s : ι} {l : List (ι × Dep)} (h : (keys l).Nodup) : (keys (aerase s l)).Nodup :=
  keys_aerase s l ▸ h.filter _

theorem aerase_eq_self {k : ι} {l : List (ι × Dep)} (h : k ∉ keys l) : aerase k l = l :=
  List.filter_eq_self.2 fun _ hp => decide_eq_true fun hk => h (hk ▸ mem_keys_of_mem hp)

theorem keys_obviate (d : Dep) (l : List (ι × Dep)) : keys (obviate d l) = keys l := by
  refine (List.map_map ..).trans (List.map_congr_left fun p _ => ?_)
  show (if p.2 = d then (p.1, Dep.obv) else p).1 = p.1
  split <;> rfl

theorem mem_obviate {d : Dep} {l : List (ι × Dep)} {p : ι × Dep} :
    p ∈ obviate d l ↔ ∃ q ∈ l, p = (if q.2 = d then (q.1, Dep.obv) else q) := by
  unfold obviate
  rw [List.mem_map]
  exact ⟨fun ⟨q, hq, h⟩ => ⟨q, hq, h.symm⟩, fun ⟨q, hq, h⟩ => ⟨q, hq, h.symm⟩⟩

theorem obviate_ne {d : Dep} (hd : d ≠ .obv) {l : List (ι × Dep)} {p : ι × Dep} (hp : p ∈ obviate d l) :
    p.2 ≠ d := by
  obtain ⟨q, _, rfl⟩ := mem_obviate.1 hp
  split
  · exact fun h => hd h.symm
  · assumption

theorem hasDep_iff {d : Dep} {l : List (ι × Dep)} : hasDep d l = true ↔ ∃ p ∈ l, p.2 = d := by
  simp [hasDep]

theorem hasDep_false_iff {d : Dep} {l : List (ι × Dep)} : hasDep d l = false ↔ ∀ p ∈ l, p.2 ≠ d := by
  simp [hasDep]

theorem Dep.hard_cases {d : Dep} (h : d.hard = true) : d = .and ∨ d = .or ∨ d = .cand := by
  cases d <;> first | decide | cases h

/-- `Graph.Inv.ready_ok` and `Graph.Aux.ready_ok` spell this out (`∀ p ∈ n.out, p.2.hard = false`); the proofs pass from
one form to the other by unfolding -/
def allSoft (l : List (ι × Dep)) : Prop := ∀ p ∈ l, p.2.hard = false

/-- no outstanding hard dependency, as `dependencyResolved` tests it -/
theorem allSoft_iff {l : List (ι × Dep)} :
    allSoft l ↔ (hasDep .and l || hasDep .cand l || hasDep .or l) = false := by
  simp only [allSoft, Bool.or_eq_false_iff, hasDep_false_iff]
  constructor
  · intro h
    refine ⟨⟨?_, ?_⟩, ?_⟩ <;> exact fun p hp hd => by have := h p hp; rw [hd] at this; cases this
  · intro ⟨⟨h1, h2⟩, h3⟩ p hp
    have a1 := h1 p hp; have a2 := h2 p hp; have a3 := h3 p hp
    match p.2, a1, a2, a3 with
    | .opt, _, _, _ => rfl
    | .obv, _, _, _ => rfl
    | .and, h, _, _ => exact absurd rfl h
    | .cand, _, h, _ => exact absurd rfl h
    | .or, _, _, h => exact absurd rfl h

theorem allSoft_obviate {d : Dep} {l : List (ι × Dep)} (h : allSoft l) : allSoft (obviate d l) := by
  intro p hp
  obtain ⟨q, hq, rfl⟩ := mem_obviate.1 hp
  split
  · rfl
  · exact h q hq

theorem mem_insertSet {x y : ι} {l : List ι} : y ∈ insertSet x l ↔ y = x ∨ y ∈ l := by
  unfold insertSet
  split
  · next h => exact ⟨Or.inr, fun h' => h'.elim (fun e => e ▸ h) id⟩
  · rw [List.mem_append, List.mem_singleton, or_comm]

theorem nodup_insertSet {x : ι} {l : List ι} (h : l.Nodup) : (insertSet x l).Nodup := by
  unfold insertSet
  split
  · exact h
  · exact h.concat ‹_›

end Arca.Model
