/-
The inductive invariant of the plugin provider's state model (`Arca.Model.PluginState`): which `r.state` /
`r.currentStage` another goroutine can observe at which point of `run()`.  `inv` is the table as a test; the proofs
use `At`, the table as an inductive family with one constructor per program point, so that a fact about a reachable
state is read by `cases` and the state after a step is checked by unification (a `simp` per program point cost ten times that).
-/
import Arca.Model.PluginState
import Arca.Model.PluginStep

namespace Arca.Proofs.PluginState
open Arca.Model.PluginState

/-- `l.finishedStages` along ending `p`: `finPre` when `run()` has chosen it, `finMid` once the `OnStageChange` into its
    final stage has been processed (`transitionFromFailedStage` sends none), `finPost` once `OnStepComplete` has;
    `settledPost`: what `markRemainingStagesUnresolvable` settles then. -/
def finPre : Path → List Stage
  | .closedEnable => [.deploy]
  | .closedStart => [.deploy, .enabling]
  | .disabled => [.deploy]
  | .startFailed => [.deploy, .enabling]
  | .runFailed => [.deploy, .enabling, .starting]
  | .ok => [.deploy, .enabling, .starting]
  | _ => []

def finMid : Path → List Stage
  | .closedAfterDeploy => [.deploy]
  | .deployFailed => [.deploy]
  | .disabled => [.deploy, .enabling]
  | .runFailed => [.deploy, .enabling, .starting, .running]
  | .ok => [.deploy, .enabling, .starting, .running]
  | p => finPre p

def finalStage : Path → Stage
  | .deployFailed => .deployFailed
  | .disabled => .disabled
  | .startFailed => .crashed
  | .runFailed => .crashed
  | .ok => .outputs
  | _ => .closed

def finPost (p : Path) : List Stage := finMid p ++ [finalStage p]

def settledPost (marks : Bool) (p : Path) : List Stage :=
  if marks then allStages.filter (fun x => !(finPost p).contains x) else []

def inv (marks : Bool) (s : St) : Bool :=
  let dEq := s.deployOcc == s.deployAvail     -- deploy input not consumed yet
  let eEq := s.enabledOcc == s.enabledAvail   -- enabling input not consumed yet
  let rEq := s.runOcc == s.runAvail           -- run input not consumed yet
  let rep (x : Stage) := s.reportedStage == some x
  let runFacts := if s.early then s.runAvail && !s.runOcc else rEq
  -- an input flag that is not set means an empty channel
  (s.deployAvail || !s.deployOcc) && (s.enabledAvail || !s.enabledOcc) && (s.runAvail || !s.runOcc) &&
  (match s.pc with
   | .dLock => s.state == .starting && s.stage == .deploy && dEq && eEq && rEq && s.reportedStage == none && !s.completed && s.path == .main && s.tailFails == [] && s.settledStages == [] && s.finishedStages == []
   | .dCb => s.state == .running && s.stage == .deploy && dEq && eEq && rEq && s.reportedStage == none && !s.completed && s.path == .main && s.tailFails == [] && s.settledStages == [] && s.finishedStages == []
   | .dCbRet => s.state == .running && s.stage == .deploy && dEq && eEq && rEq && rep .deploy && !s.completed && s.path == .main && s.tailFails == [] && s.settledStages == [] && s.finishedStages == []
   | .dTry => s.state == .running && s.stage == .deploy && dEq && eEq && rEq && rep .deploy && !s.completed && s.path == .main && s.tailFails == [] && s.settledStages == [] && s.finishedStages == []
   | .dSetWaiting => s.state == .running && s.stage == .deploy && dEq && eEq && rEq && rep .deploy && !s.completed && s.path == .main && s.tailFails == [] && s.settledStages == [] && s.finishedStages == []
   | .dWait => (s.state == .waiting || (s.state == .running && s.deployAvail)) && s.stage == .deploy && dEq && eEq && rEq &&
       rep .deploy && !s.completed && s.path == .main && s.tailFails == [] && s.settledStages == [] && s.finishedStages == []
   | .dGotEarly => s.state == .running && s.stage == .deploy && s.deployAvail && eEq && rEq && rep .deploy && !s.completed && s.path == .main && s.tailFails == [] && s.settledStages == [] && s.finishedStages == []
   | .dGotLate => (s.state == .waiting || s.state == .running) && s.stage == .deploy && s.deployAvail && eEq && rEq &&
       rep .deploy && !s.completed && s.path == .main && s.tailFails == [] && s.settledStages == [] && s.finishedStages == []
   | .dDeploying => s.state == .running && s.stage == .deploy && eEq && rEq && rep .deploy && !s.completed && s.path == .main && s.tailFails == [] && s.settledStages == [] && s.finishedStages == []
   | .spCheck => s.state == .running && s.stage == .deploy && eEq && rEq && rep .deploy && !s.completed && s.path == .main && s.tailFails == [] && s.settledStages == [] && s.finishedStages == []
   | .eLock => s.state == .running && s.stage == .deploy && eEq && rEq && rep .deploy && !s.completed && s.path == .main && s.tailFails == [] && s.settledStages == [] && s.finishedStages == []
   | .eCb => s.state == .waiting && s.stage == .enabling && eEq && rEq && rep .deploy && !s.completed && s.path == .main && s.tailFails == [] && s.settledStages == [] && s.finishedStages == []
   | .eCbRet => s.state == .waiting && s.stage == .enabling && eEq && rEq && rep .enabling && !s.completed && s.path == .main && s.tailFails == [] && s.settledStages == [] && s.finishedStages == [.deploy]
   | .eWait => s.state == .waiting && s.stage == .enabling && eEq && rEq && rep .enabling && !s.completed && s.path == .main && s.tailFails == [] && s.settledStages == [] && s.finishedStages == [.deploy]
   | .eGotTrue => s.state == .waiting && s.stage == .enabling && s.enabledAvail && rEq && rep .enabling && !s.completed && s.path == .main && s.tailFails == [] && s.settledStages == [] && s.finishedStages == [.deploy]
   | .sTry => s.state == .waiting && s.stage == .enabling && s.enabledAvail && rEq && rep .enabling && !s.completed && s.path == .main && s.tailFails == [] && s.settledStages == [] && s.finishedStages == [.deploy]
   | .transLock .starting st => s.state == .waiting && s.stage == .enabling && s.enabledAvail && runFacts &&
       st == (if s.early then .running else .waiting) && rep .enabling && !s.completed && s.path == .main && s.tailFails == [] && s.settledStages == [] && s.finishedStages == [.deploy]
   | .transLock .disabled st => s.state == .waiting && s.stage == .enabling && s.enabledAvail && st == .running &&
       rep .enabling && !s.completed && s.path == .disabled && s.tailFails == tailOf s.path && s.finishedStages == finPre s.path && s.settledStages == []
   | .transLock .running st => s.state == .running && s.stage == .starting && st == .running && rep .starting && !s.completed && s.path == .main && s.tailFails == [] && s.settledStages == [] && s.finishedStages == [.deploy, .enabling]
   | .transLock .outputs st => s.state == .running && s.stage == .running && st == .running && rep .running && !s.completed &&
       s.path == .ok && s.tailFails == tailOf s.path && s.finishedStages == finPre s.path && s.settledStages == []
   | .transLock .crashed st => s.state == .running && s.stage == .running && st == .running && rep .running && !s.completed &&
       s.path == .runFailed && s.tailFails == tailOf s.path && s.finishedStages == finPre s.path && s.settledStages == []
   | .transLock .deployFailed st => s.state == .running && s.stage == .deploy && st == .running && rep .deploy && !s.completed &&
       s.path == .deployFailed && s.tailFails == tailOf s.path && s.finishedStages == finPre s.path && s.settledStages == []
   | .transLock .closed st => s.state == .running && s.stage == .deploy && st == .running && rep .deploy && !s.completed &&
       s.path == .closedAfterDeploy && s.tailFails == tailOf s.path && s.finishedStages == finPre s.path && s.settledStages == []
   | .transLock .deploy _ => false
   | .transLock .enabling _ => false
   | .transCb .starting => s.stage == .starting && s.state == (if s.early then .running else .waiting) && runFacts &&
       rep .enabling && !s.completed && s.path == .main && s.tailFails == [] && s.settledStages == [] && s.finishedStages == [.deploy]
   | .transCb .disabled => s.state == .running && s.stage == .disabled && rep .enabling && !s.completed && s.path == .disabled && s.tailFails == tailOf s.path && s.finishedStages == finPre s.path && s.settledStages == []
   | .transCb .running => s.state == .running && s.stage == .running && rep .starting && !s.completed && s.path == .main && s.tailFails == [] && s.settledStages == [] && s.finishedStages == [.deploy, .enabling]
   | .transCb .outputs => s.state == .running && s.stage == .outputs && rep .running && !s.completed && s.path == .ok && s.tailFails == tailOf s.path && s.finishedStages == finPre s.path && s.settledStages == []
   | .transCb .crashed => s.state == .running && s.stage == .crashed && rep .running && !s.completed && s.path == .runFailed && s.tailFails == tailOf s.path && s.finishedStages == finPre s.path && s.settledStages == []
   | .transCb .deployFailed => s.state == .running && s.stage == .deployFailed && rep .deploy && !s.completed &&
       s.path == .deployFailed && s.tailFails == tailOf s.path && s.finishedStages == finPre s.path && s.settledStages == []
   | .transCb .closed => s.state == .running && s.stage == .closed && rep .deploy && !s.completed &&
       s.path == .closedAfterDeploy && s.tailFails == tailOf s.path && s.finishedStages == finPre s.path && s.settledStages == []
   | .transCb .deploy => false
   | .transCb .enabling => false
   | .transCbRet .starting => s.stage == .starting && s.state == (if s.early then .running else .waiting) && runFacts &&
       rep .starting && !s.completed && s.path == .main && s.tailFails == [] && s.settledStages == [] && s.finishedStages == [.deploy, .enabling]
   | .transCbRet .running => s.state == .running && s.stage == .running && rep .running && !s.completed && s.path == .main && s.tailFails == [] && s.settledStages == [] && s.finishedStages == [.deploy, .enabling, .starting]
   | .transCbRet .deploy => false
   | .transCbRet .enabling => false
   | .transCbRet tgt => s.state == .running && s.stage == tgt && rep tgt && !s.completed && s.path != .main &&
       finalStage s.path == tgt && s.path != .closedDeploy && s.path != .closedEnable && s.path != .closedStart &&
       s.path != .startFailed && s.tailFails == tailOf s.path && s.finishedStages == finMid s.path && s.settledStages == []
   | .sCheck => s.state == .waiting && s.stage == .starting && !s.early && rEq && rep .starting && !s.completed && s.path == .main && s.tailFails == [] && s.settledStages == [] && s.finishedStages == [.deploy, .enabling]
   | .sWait => s.state == .waiting && s.stage == .starting && !s.early && rEq && rep .starting && !s.completed && s.path == .main && s.tailFails == [] && s.settledStages == [] && s.finishedStages == [.deploy, .enabling]
   | .sGotLate => s.state == .waiting && s.stage == .starting && !s.early && s.runAvail && rep .starting && !s.completed && s.path == .main && s.tailFails == [] && s.settledStages == [] && s.finishedStages == [.deploy, .enabling]
   | .sSchema => s.state == .running && s.stage == .starting && rep .starting && !s.completed && s.path == .main && s.tailFails == [] && s.settledStages == [] && s.finishedStages == [.deploy, .enabling]
   | .rWait => s.state == .running && s.stage == .running && rep .running && !s.completed && s.path == .main && s.tailFails == [] && s.settledStages == [] && s.finishedStages == [.deploy, .enabling, .starting]
   | .failedLock .closed =>
       (s.state == .waiting || (s.state == .running && s.stage == .deploy && s.deployAvail)) &&
       s.ctxDone && s.reportedStage == some s.stage && !s.completed &&
       ((s.stage == .deploy && s.path == .closedDeploy) || (s.stage == .enabling && s.path == .closedEnable) ||
        (s.stage == .starting && s.path == .closedStart)) && s.tailFails == tailOf s.path && s.finishedStages == finPre s.path && s.settledStages == []
   | .failedLock .crashed => s.state == .running && s.stage == .starting && !s.completed && s.path == .startFailed && s.tailFails == tailOf s.path && s.finishedStages == finPre s.path && s.settledStages == []
   | .failedLock _ => false
   | .failedCb tgt => s.state == .running && s.stage == tgt && !s.completed &&
       (s.path == .closedDeploy || s.path == .closedEnable || s.path == .closedStart || s.path == .startFailed) &&
       finalStage s.path == tgt && s.tailFails == tailOf s.path && s.finishedStages == finMid s.path && s.settledStages == []
   | .complLock tgt => s.state == .running && s.stage == tgt && !s.completed && s.path != .main && finalStage s.path == tgt && s.tailFails == tailOf s.path && s.finishedStages == finMid s.path && s.settledStages == []
   | .complCb tgt => s.state == .finished && s.stage == tgt && !s.completed && s.path != .main && finalStage s.path == tgt && s.tailFails == tailOf s.path && s.finishedStages == finMid s.path && s.settledStages == []
   | .complCbRet tgt => s.state == .finished && s.stage == tgt && s.completed && s.path != .main && finalStage s.path == tgt && s.tailFails == tailOf s.path && s.finishedStages == finPost s.path && s.settledStages == settledPost marks s.path
   | .tailFail => s.state == .finished && s.completed && s.path != .main && s.path != .ok && s.tailFails == tailOf s.path && s.finishedStages == finPost s.path && s.settledStages == settledPost marks s.path
   | .tailClose => s.state == .finished && s.completed && s.path != .main && s.tailFails == tailOf s.path && s.finishedStages == finPost s.path && s.settledStages == settledPost marks s.path
   | .done => s.state == .finished && s.completed && s.path != .main && s.tailFails == tailOf s.path && s.finishedStages == finPost s.path && s.settledStages == settledPost marks s.path)

theorem countsAs_waiting {s : St} : countsAs s = .waiting ↔
    s.state = .waiting ∧ currentStageInputAvailable s = false ∧ s.ctxDone = false ∧ s.reportedStage = some s.stage := by
  unfold countsAs reportedState
  grind

theorem countsAs_finished {s : St} : countsAs s = .finished ↔ s.state = .finished ∧ s.completed = true := by
  unfold countsAs reportedState
  grind

theorem refined_iff {s : St} : Refined s = true ↔
    (s.state = .waiting ∧ (currentStageInputAvailable s = true ∨ s.ctxDone = true ∨ s.reportedStage ≠ some s.stage)) ∨
    (s.state = .finished ∧ s.completed = false) := by
  unfold Refined countsAs reportedState
  grind

set_option hygiene false in
/-- every program point; the parametrised ones target by target (`tgt`), except `failedCb`, `complLock` and `complCb`,
    whose target no table looks at -/
macro "pc_cases " pc:ident : tactic => `(tactic| (
  rcases $pc:ident with _|_|_|_|_|_|_|_|_|_|_|_|_|_|_|_|_|_|_|_|_|⟨tgt,st⟩|⟨tgt⟩|⟨tgt⟩|⟨tgt⟩|⟨t⟩|⟨t⟩|⟨t⟩|⟨tgt⟩|_|_|_
  all_goals try cases tgt))

/-- a `transCb` / `transCbRet` into `deploy` or `enabling` is no program point of `run()`: `inv` is false there -/
theorem quiescent_eq (s : St) : Quiescent s = (match s.pc with
    | .dWait => !s.deployOcc && !s.ctxDone
    | .eWait => !s.enabledOcc && !s.ctxDone
    | .sWait => !s.runOcc && !s.ctxDone
    | .done => true
    | .transCb .deploy | .transCb .enabling | .transCbRet .deploy | .transCbRet .enabling => true
    | _ => false) := by
  rcases s with ⟨pc, state, stage, dA, eA, rA, dO, eO, eV, rO, early, ctx, tailF, path, rep, compl, fin, settled⟩
  cases pc
  -- `Quiescent` tries the actions in the order of `progressActs`: it comes to `ctx` only where the four before it are impossible
  case dTry => cases dO <;> rfl
  case sTry => cases rO <;> rfl
  case dWait => cases dO <;> cases ctx <;> rfl
  case eWait => cases eO <;> cases ctx <;> rfl
  case sWait => cases rO <;> cases ctx <;> rfl
  case spCheck | dDeploying | sSchema | rWait | done => cases ctx <;> rfl
  case transCb tgt | transCbRet tgt => cases tgt <;> first | rfl | (cases ctx <;> rfl)
  all_goals rfl

/-- what `Quiescent` says, for either value of `marks` (it decides only what `deliver` writes at `complCb`) -/
theorem quiescent_stuck {marks : Bool} {s : St} {a : Act} (hq : Quiescent s = true) (ha : a ∈ progressActs) :
    step marks s a = none := by
  have h := List.all_eq_true.1 hq a ha
  cases marks
  case true => exact Option.isNone_iff_eq_none.1 h
  cases a
  case deliver =>
    rcases s with ⟨pc⟩
    cases pc <;> first | rfl | cases h | skip
    case transCb tgt => cases tgt <;> first | rfl | cases h
  all_goals exact Option.isNone_iff_eq_none.1 h

/-- an input as the pair of its flag and whether the item sits in the channel: not yet received (the same until then),
    or received (`inv` asks of an input that the flag is set while the item is there) -/
abbrev unread (x : Bool) : Bool × Bool := (x, x)
abbrev taken : Bool × Bool := (true, false)

/-- a state before an ending is chosen, and one on ending `p`; `d`, `e`, `r`: the deploy, enabling and run input -/
abbrev onMain (pc : Pc) (state : RState) (stage : Stage) (d e r : Bool × Bool) (eV early ctx : Bool) (rep : Option Stage)
    (fin : List Stage) : St :=
  ⟨pc, state, stage, d.1, e.1, r.1, d.2, e.2, eV, r.2, early, ctx, [], .main, rep, false, fin, []⟩
abbrev onEnding (p : Path) (pc : Pc) (state : RState) (stage : Stage) (d e r : Bool × Bool) (eV early ctx : Bool)
    (rep : Option Stage) (compl : Bool) (fin settled : List Stage) : St :=
  ⟨pc, state, stage, d.1, e.1, r.1, d.2, e.2, eV, r.2, early, ctx, tailOf p, p, rep, compl, fin, settled⟩

/-- `At marks pc s`: `s` is one of the states in which `run()` can be at `pc`, every field that is known there written out.
    It is `inv` made stronger in one respect: a received input stays `taken`, so that `inv`'s condition on the channels
    needs saying only where the ending is a parameter. -/
inductive At (marks : Bool) : Pc → St → Prop
  | dLock : At marks .dLock (onMain .dLock .starting .deploy (unread dA) (unread eA) (unread rA) eV early ctx none [])
  | dCb : At marks .dCb (onMain .dCb .running .deploy (unread dA) (unread eA) (unread rA) eV early ctx none [])
  | dCbRet : At marks .dCbRet (onMain .dCbRet .running .deploy (unread dA) (unread eA) (unread rA) eV early ctx (some .deploy) [])
  | dTry {dA : Bool} : At marks .dTry (onMain .dTry .running .deploy (unread dA) (unread eA) (unread rA) eV early ctx (some .deploy) [])
  | dSetWaiting : At marks .dSetWaiting (onMain .dSetWaiting .running .deploy (unread dA) (unread eA) (unread rA) eV early ctx (some .deploy) [])
  | dWait {dA ctx : Bool} : At marks .dWait (onMain .dWait .waiting .deploy (unread dA) (unread eA) (unread rA) eV early ctx (some .deploy) [])
  | dWaitRace : At marks .dWait (onMain .dWait .running .deploy (true, true) (unread eA) (unread rA) eV early ctx (some .deploy) [])
  | dGotEarly : At marks .dGotEarly (onMain .dGotEarly .running .deploy taken (unread eA) (unread rA) eV early ctx (some .deploy) [])
  | dGotLate : state = .waiting ∨ state = .running →
      At marks .dGotLate (onMain .dGotLate state .deploy taken (unread eA) (unread rA) eV early ctx (some .deploy) [])
  | dDeploying : At marks .dDeploying (onMain .dDeploying .running .deploy taken (unread eA) (unread rA) eV early ctx (some .deploy) [])
  | spCheck {ctx : Bool} : At marks .spCheck (onMain .spCheck .running .deploy taken (unread eA) (unread rA) eV early ctx (some .deploy) [])
  | eLock : At marks .eLock (onMain .eLock .running .deploy taken (unread eA) (unread rA) eV early ctx (some .deploy) [])
  | eCb : At marks .eCb (onMain .eCb .waiting .enabling taken (unread eA) (unread rA) eV early ctx (some .deploy) [])
  | eCbRet : At marks .eCbRet (onMain .eCbRet .waiting .enabling taken (unread eA) (unread rA) eV early ctx (some .enabling) [.deploy])
  | eWait {eA eV ctx : Bool} : At marks .eWait (onMain .eWait .waiting .enabling taken (unread eA) (unread rA) eV early ctx (some .enabling) [.deploy])
  | eGotTrue : At marks .eGotTrue (onMain .eGotTrue .waiting .enabling taken taken (unread rA) eV early ctx (some .enabling) [.deploy])
  | sTry {rA : Bool} : At marks .sTry (onMain .sTry .waiting .enabling taken taken (unread rA) eV early ctx (some .enabling) [.deploy])
  | lockStartingEarly : At marks (.transLock .starting .running) (onMain (.transLock .starting .running) .waiting .enabling taken taken taken eV true ctx (some .enabling) [.deploy])
  | lockStartingLate : At marks (.transLock .starting .waiting) (onMain (.transLock .starting .waiting) .waiting .enabling taken taken (unread rA) eV false ctx (some .enabling) [.deploy])
  | lockDisabled : At marks (.transLock .disabled .running) (onEnding .disabled (.transLock .disabled .running) .waiting .enabling taken taken (unread rA) eV early ctx (some .enabling) false (finPre .disabled) [])
  | lockRunning : At marks (.transLock .running .running) (onMain (.transLock .running .running) .running .starting taken taken taken eV early ctx (some .starting) [.deploy, .enabling])
  | lockOutputs : At marks (.transLock .outputs .running) (onEnding .ok (.transLock .outputs .running) .running .running taken taken taken eV early ctx (some .running) false (finPre .ok) [])
  | lockCrashed : At marks (.transLock .crashed .running) (onEnding .runFailed (.transLock .crashed .running) .running .running taken taken taken eV early ctx (some .running) false (finPre .runFailed) [])
  | lockDeployFailed : At marks (.transLock .deployFailed .running) (onEnding .deployFailed (.transLock .deployFailed .running) .running .deploy taken (unread eA) (unread rA) eV early ctx (some .deploy) false (finPre .deployFailed) [])
  | lockClosed : At marks (.transLock .closed .running) (onEnding .closedAfterDeploy (.transLock .closed .running) .running .deploy taken (unread eA) (unread rA) eV early ctx (some .deploy) false (finPre .closedAfterDeploy) [])
  | cbStartingEarly : At marks (.transCb .starting) (onMain (.transCb .starting) .running .starting taken taken taken eV true ctx (some .enabling) [.deploy])
  | cbStartingLate : At marks (.transCb .starting) (onMain (.transCb .starting) .waiting .starting taken taken (unread rA) eV false ctx (some .enabling) [.deploy])
  | cbDisabled : At marks (.transCb .disabled) (onEnding .disabled (.transCb .disabled) .running .disabled taken taken (unread rA) eV early ctx (some .enabling) false (finPre .disabled) [])
  | cbRunning : At marks (.transCb .running) (onMain (.transCb .running) .running .running taken taken taken eV early ctx (some .starting) [.deploy, .enabling])
  | cbOutputs : At marks (.transCb .outputs) (onEnding .ok (.transCb .outputs) .running .outputs taken taken taken eV early ctx (some .running) false (finPre .ok) [])
  | cbCrashed : At marks (.transCb .crashed) (onEnding .runFailed (.transCb .crashed) .running .crashed taken taken taken eV early ctx (some .running) false (finPre .runFailed) [])
  | cbDeployFailed : At marks (.transCb .deployFailed) (onEnding .deployFailed (.transCb .deployFailed) .running .deployFailed taken (unread eA) (unread rA) eV early ctx (some .deploy) false (finPre .deployFailed) [])
  | cbClosed : At marks (.transCb .closed) (onEnding .closedAfterDeploy (.transCb .closed) .running .closed taken (unread eA) (unread rA) eV early ctx (some .deploy) false (finPre .closedAfterDeploy) [])
  | retStartingEarly : At marks (.transCbRet .starting) (onMain (.transCbRet .starting) .running .starting taken taken taken eV true ctx (some .starting) [.deploy, .enabling])
  | retStartingLate : At marks (.transCbRet .starting) (onMain (.transCbRet .starting) .waiting .starting taken taken (unread rA) eV false ctx (some .starting) [.deploy, .enabling])
  | retRunning : At marks (.transCbRet .running) (onMain (.transCbRet .running) .running .running taken taken taken eV early ctx (some .running) [.deploy, .enabling, .starting])
  | sCheck : At marks .sCheck (onMain .sCheck .waiting .starting taken taken (unread rA) eV false ctx (some .starting) [.deploy, .enabling])
  | sWait {rA ctx : Bool} : At marks .sWait (onMain .sWait .waiting .starting taken taken (unread rA) eV false ctx (some .starting) [.deploy, .enabling])
  | sGotLate : At marks .sGotLate (onMain .sGotLate .waiting .starting taken taken taken eV false ctx (some .starting) [.deploy, .enabling])
  | sSchema : At marks .sSchema (onMain .sSchema .running .starting taken taken taken eV early ctx (some .starting) [.deploy, .enabling])
  | rWait : At marks .rWait (onMain .rWait .running .running taken taken taken eV early ctx (some .running) [.deploy, .enabling, .starting])
  | closedDeploy : At marks (.failedLock .closed) (onEnding .closedDeploy (.failedLock .closed) .waiting .deploy (unread dA) (unread eA) (unread rA) eV early true (some .deploy) false (finPre .closedDeploy) [])
  | closedDeployRace : At marks (.failedLock .closed) (onEnding .closedDeploy (.failedLock .closed) .running .deploy (true, true) (unread eA) (unread rA) eV early true (some .deploy) false (finPre .closedDeploy) [])
  | closedEnable : At marks (.failedLock .closed) (onEnding .closedEnable (.failedLock .closed) .waiting .enabling taken (unread eA) (unread rA) eV early true (some .enabling) false (finPre .closedEnable) [])
  | closedStart : At marks (.failedLock .closed) (onEnding .closedStart (.failedLock .closed) .waiting .starting taken taken (unread rA) eV early true (some .starting) false (finPre .closedStart) [])
  | startFailed : At marks (.failedLock .crashed) (onEnding .startFailed (.failedLock .crashed) .running .starting taken taken taken eV early ctx rep false (finPre .startFailed) [])
  -- from here on the ending `p` is a parameter
  | retFinal p : p = .closedAfterDeploy ∨ p = .deployFailed ∨ p = .disabled ∨ p = .runFailed ∨ p = .ok →
      (dA || !dO) = true → (eA || !eO) = true → (rA || !rO) = true →
      At marks (.transCbRet (finalStage p)) (onEnding p (.transCbRet (finalStage p)) .running (finalStage p) (dA, dO) (eA, eO) (rA, rO) eV early ctx (some (finalStage p)) false (finMid p) [])
  | failedCb p : p = .closedDeploy ∨ p = .closedEnable ∨ p = .closedStart ∨ p = .startFailed →
      (dA || !dO) = true → (eA || !eO) = true → (rA || !rO) = true →
      At marks (.failedCb (finalStage p)) (onEnding p (.failedCb (finalStage p)) .running (finalStage p) (dA, dO) (eA, eO) (rA, rO) eV early ctx rep false (finMid p) [])
  | complLock p : p ≠ .main → (dA || !dO) = true → (eA || !eO) = true → (rA || !rO) = true →
      At marks (.complLock (finalStage p)) (onEnding p (.complLock (finalStage p)) .running (finalStage p) (dA, dO) (eA, eO) (rA, rO) eV early ctx rep false (finMid p) [])
  | complCb p : p ≠ .main → (dA || !dO) = true → (eA || !eO) = true → (rA || !rO) = true →
      At marks (.complCb (finalStage p)) (onEnding p (.complCb (finalStage p)) .finished (finalStage p) (dA, dO) (eA, eO) (rA, rO) eV early ctx rep false (finMid p) [])
  | complCbRet p : p ≠ .main → (dA || !dO) = true → (eA || !eO) = true → (rA || !rO) = true →
      At marks (.complCbRet (finalStage p)) (onEnding p (.complCbRet (finalStage p)) .finished (finalStage p) (dA, dO) (eA, eO) (rA, rO) eV early ctx rep true (finPost p) (settledPost marks p))
  | tailFail p : p ≠ .main → p ≠ .ok → (dA || !dO) = true → (eA || !eO) = true → (rA || !rO) = true →
      At marks .tailFail (onEnding p .tailFail .finished stage (dA, dO) (eA, eO) (rA, rO) eV early ctx rep true (finPost p) (settledPost marks p))
  | tailClose p : p ≠ .main → (dA || !dO) = true → (eA || !eO) = true → (rA || !rO) = true →
      At marks .tailClose (onEnding p .tailClose .finished stage (dA, dO) (eA, eO) (rA, rO) eV early ctx rep true (finPost p) (settledPost marks p))
  | done p : p ≠ .main → (dA || !dO) = true → (eA || !eO) = true → (rA || !rO) = true →
      At marks .done (onEnding p .done .finished stage (dA, dO) (eA, eO) (rA, rO) eV early ctx rep true (finPost p) (settledPost marks p))

/-- closure under one action by blanket search: fix the action and the program point, compute, discharge
    (no proof uses it: each action is treated at the program points at which it is possible) -/
macro "close_tac" hi:ident hs:ident pc:ident stv:ident ev:ident pv:ident mv:ident : tactic => `(tactic| (
  rcases $pc:ident with _|_|_|_|_|_|_|_|_|_|_|_|_|_|_|_|_|_|_|_|_|⟨tgt,st⟩|⟨tgt⟩|⟨tgt⟩|⟨tgt⟩|⟨tgt⟩|⟨tgt⟩|⟨tgt⟩|⟨tgt⟩|_|_|_
  all_goals (try cases tgt)
  all_goals (try cases st)
  all_goals (simp [step, afterTrans, choose] at $hs:ident)
  all_goals (try (repeat' split at $hs:ident))
  all_goals (try (obtain ⟨_, $hs:ident⟩ := $hs:ident))
  all_goals (try subst $hs:ident)
  all_goals (try (simp_all [inv, choose, tailOf, failChain, finPre, finMid, finPost, finalStage, settledPost, allStages, prevOf]; done))
  all_goals (try (split <;> simp_all [inv, choose, tailOf, failChain, finPre, finMid, finPost, finalStage, settledPost, allStages, prevOf]; done))
  all_goals (try (cases $stv:ident <;> simp_all [inv, choose, tailOf, failChain, finPre, finMid, finPost, finalStage, settledPost, allStages, prevOf]; done))
  all_goals (try (cases $ev:ident <;> simp_all [inv, choose, tailOf, failChain, finPre, finMid, finPost, finalStage, settledPost, allStages, prevOf]; done))
  all_goals (try (cases $pv:ident <;> simp_all [inv, choose, tailOf, failChain, finPre, finMid, finPost, finalStage, settledPost, allStages, prevOf]; done))
  all_goals (try (cases $pv:ident <;> cases $mv:ident <;> simp_all [inv, choose, tailOf, failChain, finPre, finMid, finPost, finalStage, settledPost, allStages, prevOf]; done))))

/-- `At` is inductive. A transition that needs no side condition is left to `constructor`, which finds the program point reached. -/
theorem At.step {marks : Bool} {s s' : St} {a : Act} (hi : At marks s.pc s) (hs : step marks s a = some s') :
    At marks s'.pc s' := by
  cases a
  -- the engine's actions keep the program point and set flags of which `At` asks only that they be equal, or set;
  -- `provideDeployInput` also flips a raw `waiting_for_input` in stage `deploy` (`dWaitRace`, `closedDeployRace`)
  case provideDeploy | provideEnabling | provideStarting | cancel =>
    obtain ⟨hn, h⟩ := Option.ite_none_left_eq_some.1 hs
    cases h
    replace hn := Bool.eq_false_iff.2 hn
    generalize s.pc = pc at hi ⊢
    cases hi <;> cases hn <;> constructor <;> first | assumption | rfl
  case internal =>
    generalize s.pc = pc at hi
    cases hi <;> try cases hs
    -- the non-blocking receives and the context check decide where `run()` goes
    case dTry dA => cases dA <;> cases hs <;> constructor
    case spCheck ctx => cases ctx <;> cases hs <;> constructor
    case sTry rA => cases rA <;> cases hs <;> constructor
    case retFinal p hp hd he hr =>
      have hm : p ≠ .main := by rintro rfl; simp at hp
      rcases hp with rfl | rfl | rfl | rfl | rfl <;> cases hs <;> exact .complLock _ hm hd he hr
    case closedDeploy => exact .failedCb .closedDeploy (.inl rfl) (Bool.or_not_self _) (Bool.or_not_self _) (Bool.or_not_self _)
    case closedDeployRace => exact .failedCb .closedDeploy (.inl rfl) rfl (Bool.or_not_self _) (Bool.or_not_self _)
    case closedEnable => exact .failedCb .closedEnable (.inr (.inl rfl)) rfl (Bool.or_not_self _) (Bool.or_not_self _)
    case closedStart => exact .failedCb .closedStart (.inr (.inr (.inl rfl))) rfl rfl (Bool.or_not_self _)
    case startFailed => exact .failedCb .startFailed (.inr (.inr (.inr rfl))) rfl rfl rfl
    -- the failure notifications follow unless the ending is the successful one
    case complCbRet p hp hd he hr =>
      cases p <;> first | exact .tailClose _ hp hd he hr | exact .tailFail _ hp (by decide) hd he hr
    all_goals constructor <;> assumption
  case deliver =>
    generalize s.pc = pc at hi
    cases hi <;> cases hs
    case cbDisabled => exact .retFinal .disabled (by simp) rfl rfl (Bool.or_not_self _)
    case cbOutputs => exact .retFinal .ok (by simp) rfl rfl rfl
    case cbCrashed => exact .retFinal .runFailed (by simp) rfl rfl rfl
    case cbDeployFailed => exact .retFinal .deployFailed (by simp) rfl (Bool.or_not_self _) (Bool.or_not_self _)
    case cbClosed => exact .retFinal .closedAfterDeploy (by simp) rfl (Bool.or_not_self _) (Bool.or_not_self _)
    all_goals constructor <;> assumption
  case deliverFailure =>
    generalize s.pc = pc at hi
    cases hi <;> cases hs
    case failedCb p hp hd he hr => exact .complLock p (by rintro rfl; simp at hp) hd he hr
    all_goals constructor <;> assumption
  case recv =>
    generalize s.pc = pc at hi
    cases hi <;> try cases hs
    case dWait dA _ => cases dA <;> cases hs; exact .dGotLate (.inl rfl)
    case dWaitRace => exact .dGotLate (.inr rfl)
    case eWait eA eV _ => cases eA <;> cases eV <;> cases hs <;> constructor
    case sWait rA _ => cases rA <;> cases hs; constructor
  case ctx =>
    obtain ⟨hc, hs⟩ := Option.ite_none_right_eq_some.1 hs
    generalize s.pc = pc at hi
    cases hi <;> cases hs <;> cases hc <;> constructor
  -- the answers of the deployer and the plugin, each awaited at one program point
  all_goals obtain ⟨hpc, h⟩ := Option.ite_none_right_eq_some.1 hs; cases h; rw [hpc] at hi; cases hi; constructor

theorem reachable_at {marks : Bool} {s : St} (hr : Reachable marks s) : At marks s.pc s := by
  induction hr with
  | init => exact .dLock
  | step a _ hs ih => exact ih.step hs

/-- `At` implies `inv` -/
theorem inv_of_at {marks : Bool} {pc : Pc} {s : St} (hi : At marks pc s) : inv marks s = true := by
  cases hi
  case retFinal p hp _ _ _ => rcases hp with rfl | rfl | rfl | rfl | rfl <;> simp [inv, finalStage, *]
  case failedCb p hp _ _ _ => rcases hp with rfl | rfl | rfl | rfl <;> simp [inv, finalStage, *]
  all_goals simp [inv, *]

theorem reachable_inv {marks : Bool} {s : St} (hr : Reachable marks s) : inv marks s = true :=
  inv_of_at (reachable_at hr)

theorem raw_classified {marks : Bool} {pc : Pc} {s : St} (hi : At marks pc s) (hw : s.state = .waiting ∨ s.state = .finished) :
    Quiescent s = true ∨ InWindow s = true := by
  rw [quiescent_eq]
  cases hi <;> rcases hw with h | h <;> cases h
  -- parked: the channel is empty and the context live, or `run()` is in the deploy race / being closed
  case dWait a ctx | eWait a _ ctx | sWait a ctx => cases a <;> cases ctx <;> first | exact .inl rfl | exact .inr rfl
  case done => exact .inl rfl
  all_goals exact .inr rfl

/-- `quiescent_eq` read under `inv`, which excludes the four targets that are no program points -/
theorem quiescent_shape (marks : Bool) (s : St) (hi : inv marks s = true) (hq : Quiescent s = true) :
    (s.pc = .dWait ∧ s.deployOcc = false ∧ s.ctxDone = false) ∨ (s.pc = .eWait ∧ s.enabledOcc = false ∧ s.ctxDone = false) ∨
    (s.pc = .sWait ∧ s.runOcc = false ∧ s.ctxDone = false) ∨ s.pc = .done := by
  rw [quiescent_eq] at hq
  rcases s with ⟨pc⟩
  pc_cases pc <;> simp at hq <;> first | (simp [hq]; done) | simp [inv] at hi

theorem deploy_waiting_provided {marks : Bool} {pc : Pc} {s : St} (hi : At marks pc s) (hst : s.stage = .deploy)
    (hw : s.state = .waiting) (ha : s.deployAvail = true) : inDeployRace s = true ∨ s.pc = .failedLock .closed := by
  cases hi <;> cases hw <;> cases hst <;> cases ha <;> first | exact .inl rfl | exact .inr rfl

theorem counts_waiting_settled {marks : Bool} {pc : Pc} {s : St} (hi : At marks pc s) (hc : countsAs s = .waiting) :
    Settled s = true ∧ (s.stage = .deploy → Quiescent s = true) := by
  obtain ⟨hw, ha, hctx, hrep⟩ := countsAs_waiting.1 hc
  unfold Settled; rw [quiescent_eq]
  -- left: waiting with the report processed, the input of the stage not provided, the context live
  cases hi <;> cases hw <;> cases hctx <;> cases hrep <;> cases ha
  all_goals exact ⟨rfl, fun h => by first | rfl | cases h⟩

theorem counts_finished {marks : Bool} {pc : Pc} {s : St} (hi : At marks pc s) (hc : countsAs s = .finished) :
    Settled s = true ∨
      (inFailureTail s = true ∧ s.tailFails = tailOf s.path ∧ s.settledStages = settledPost marks s.path) := by
  obtain ⟨hf, hcompl⟩ := countsAs_finished.1 hc
  unfold Settled; rw [quiescent_eq]
  cases hi <;> cases hf <;> cases hcompl
  case complCbRet p _ _ _ _ => cases p <;> first | exact .inl rfl | exact .inr ⟨rfl, rfl, rfl⟩
  case tailFail => exact .inr ⟨rfl, rfl, rfl⟩
  all_goals exact .inl rfl

/-- `owesCheck` is `true` by definition except before a parking point and after the last report: at the former `At`
    puts the provided input in the channel, at the latter the completion has been processed and `Refined` is false. -/
theorem refined_owes {marks : Bool} {pc : Pc} {s : St} (hi : At marks pc s) (hr : Refined s = true) : owesCheck s = true := by
  rcases refined_iff.1 hr with ⟨hw, h⟩ | ⟨hf, hcompl⟩
  · cases hi <;> cases hw <;> first | rfl | simp_all [currentStageInputAvailable, owesCheck]
  · cases hi <;> cases hf <;> cases hcompl <;> rfl

/-- parked, a check is owed only for an item in the channel or a cancelled context, and `Quiescent` there means neither;
    at `done` none is owed -/
theorem owes_not_quiescent {marks : Bool} {pc : Pc} {s : St} (hi : At marks pc s) (ho : owesCheck s = true) :
    Quiescent s = false := by
  rw [quiescent_eq]
  cases hi
  case dWait a ctx | eWait a _ ctx | sWait a ctx => cases a <;> cases ctx <;> first | rfl | cases ho
  case done => cases ho
  case retFinal hp _ _ _ => rcases hp with rfl | rfl | rfl | rfl | rfl <;> rfl
  all_goals rfl

/-- `owes_step` for one action by blanket search over the program points (no proof uses it) -/
macro "owes_tac" hs:ident pc:ident ev:ident : tactic => `(tactic| (
  rcases $pc:ident with _|_|_|_|_|_|_|_|_|_|_|_|_|_|_|_|_|_|_|_|_|⟨tgt,st⟩|⟨tgt⟩|⟨tgt⟩|⟨tgt⟩|⟨tgt⟩|⟨tgt⟩|⟨tgt⟩|⟨tgt⟩|_|_|_
  all_goals (try cases tgt)
  all_goals (try cases st)
  all_goals (simp [step, afterTrans, choose] at $hs:ident)
  all_goals (try (repeat' split at $hs:ident))
  all_goals (try (obtain ⟨_, $hs:ident⟩ := $hs:ident))
  all_goals (try subst $hs:ident)
  all_goals (try (simp_all [inv, owesCheck, checkingReportPending]; done))
  all_goals (try (cases $ev:ident <;> simp_all [inv, owesCheck, checkingReportPending]; done))))

theorem owes_step {marks : Bool} {s s' : St} {a : Act} (ho : owesCheck s = true) (hs : step marks s a = some s') :
    (a = Act.deliver ∧ checkingReportPending s = true) ∨ owesCheck s' = true := by
  rcases s with ⟨pc, state, stage, dA, eA, rA, dO, eO, eV, rO, early, ctx, tailF, path, rep, compl, fin, settled⟩
  cases a
  -- the engine's actions keep the program point and only set flags, on which `owesCheck` depends positively
  case provideDeploy | provideEnabling | provideStarting | cancel =>
    obtain ⟨-, h⟩ := Option.ite_none_left_eq_some.1 hs
    cases h
    cases pc
    case transCbRet tgt =>
      cases tgt <;> first | exact .inr ho | exact .inr (Bool.or_true _) | (cases early <;> exact .inr rfl)
    all_goals first | exact .inr ho | exact .inr rfl | exact .inr (Bool.or_true _)
  -- a `select` branch taken: `run()` is on its way to the next report
  case recv =>
    cases pc <;> try cases hs
    case dWait => cases dO <;> cases hs; exact .inr rfl
    case eWait => cases eO <;> cases eV <;> cases hs <;> exact .inr rfl
    case sWait => cases rO <;> cases hs; exact .inr rfl
  case ctx =>
    obtain ⟨-, hs⟩ := Option.ite_none_right_eq_some.1 hs
    cases pc <;> cases hs <;> exact .inr rfl
  case internal =>
    cases pc <;> try cases hs
    case dTry => cases dO <;> cases hs <;> first | exact .inr rfl | exact .inr ho
    case spCheck => cases ctx <;> cases hs <;> exact .inr rfl
    case sTry => cases rO <;> cases hs <;> exact .inr rfl
    case transCbRet tgt => cases tgt <;> cases hs <;> first | exact .inr rfl | (cases early <;> exact .inr ho)
    all_goals first | exact .inr ho | exact .inr rfl | cases ho
  case deliver =>
    cases pc <;> try cases hs
    case transCb tgt => cases tgt <;> cases hs <;> exact .inl ⟨rfl, rfl⟩
    all_goals first | exact .inl ⟨rfl, rfl⟩ | exact .inr ho
  case deliverFailure => cases pc <;> cases hs <;> first | exact .inr rfl | cases ho
  -- the plugin side's answers: each is possible at one program point and sends `run()` on towards a report
  all_goals obtain ⟨-, h⟩ := Option.ite_none_right_eq_some.1 hs; cases h; exact .inr rfl

theorem deploy_counts_waiting {marks : Bool} {pc : Pc} {s : St} (hi : At marks pc s) (hst : s.stage = .deploy) (hc : countsAs s = .waiting) :
    Quiescent s = true ∧ s.deployAvail = false ∧ s.ctxDone = false :=
  have ⟨_, ha, hctx, _⟩ := countsAs_waiting.1 hc
  ⟨(counts_waiting_settled hi hc).2 hst, by simpa [currentStageInputAvailable, hst] using ha, hctx⟩

theorem raw_waiting_ctx_owes {marks : Bool} {pc : Pc} {s : St} (hi : At marks pc s) (hw : s.state = .waiting) (hctx : s.ctxDone = true) :
    countsAs s = .running ∧ owesCheck s = true := by
  have hc : countsAs s = .running := by unfold countsAs reportedState; grind
  exact ⟨hc, refined_owes hi (by simp [Refined, hw, hc])⟩

theorem tail_settled (p : Path) : ((tailOf p).all fun x => (settledPost true p).contains x) = true := by
  cases p <;> decide

theorem counts_finished_harmless {pc : Pc} {s : St} (hi : At true pc s) (hc : countsAs s = .finished) : Harmless s = true := by
  unfold Harmless
  rcases counts_finished hi hc with h | ⟨h1, h2, h3⟩
  · simp [h]
  · rw [h1, h2, h3, tail_settled, Bool.and_self, Bool.or_true]

/-- Settled and not yet parked, `run()` is at `eCbRet`, `transCbRet .starting`, `sCheck`, `complCbRet .outputs` or `tailClose`
    with nothing to receive and a live context; there `step` offers `.internal` only, which writes no field of `loopView`. -/
theorem settled_step {marks : Bool} {s s' : St} {a : Act} (hs : Settled s = true) (ha : a ∈ progressActs)
    (hstep : step marks s a = some s') : a = .internal ∧ Settled s' = true ∧ loopView s' = loopView s := by
  cases hq : Quiescent s
  case true => rw [quiescent_stuck hq ha] at hstep; cases hstep
  simp only [Settled, hq, Bool.false_or] at hs
  simp only [progressActs, List.mem_cons, List.mem_nil_iff, or_false] at ha
  rcases s with ⟨pc, state, stage, dA, eA, rA, dO, eO, eV, rO, early, ctx, tailF, path, rep, compl, fin, settled⟩
  pc_cases pc <;> first | exact absurd hs Bool.false_ne_true | skip
  case' eCbRet => cases eO <;> cases ctx <;> first | cases hs | skip
  case' transCbRet.starting => cases early <;> cases rO <;> cases ctx <;> first | cases hs | skip
  case' sCheck => cases rO <;> cases ctx <;> first | cases hs | skip
  case' complCbRet.outputs => cases ctx
  case' tailClose => cases ctx
  all_goals rcases ha with rfl | rfl | rfl | rfl | rfl | rfl | rfl | rfl | rfl | rfl | rfl <;> cases hstep
  all_goals exact ⟨rfl, rfl, rfl⟩

/-- Harmless and not settled is the failure tail, at `complCbRet` (not of `outputs`) or `tailFail`: `.internal` resp.
    `.deliverFailure`, and the notifications still to come stay the same. -/
theorem harmless_step {marks : Bool} {s s' : St} {a : Act} (hh : Harmless s = true) (ha : a ∈ progressActs)
    (hstep : step marks s a = some s') :
    (a = .internal ∨ a = .deliverFailure) ∧ Harmless s' = true ∧ loopView s' = loopView s := by
  cases hs : Settled s
  case true =>
    obtain ⟨h1, h2, h3⟩ := settled_step hs ha hstep
    exact ⟨.inl h1, by rw [Harmless, h2]; rfl, h3⟩
  simp only [Harmless, hs, Bool.false_or, Bool.and_eq_true] at hh
  obtain ⟨ht, hall⟩ := hh
  simp only [progressActs, List.mem_cons, List.mem_nil_iff, or_false] at ha
  rcases s with ⟨pc, state, stage, dA, eA, rA, dO, eO, eV, rO, early, ctx, tailF, path, rep, compl, fin, settled⟩
  cases pc <;> first | exact absurd ht Bool.false_ne_true | skip
  all_goals rcases ha with rfl | rfl | rfl | rfl | rfl | rfl | rfl | rfl | rfl | rfl | rfl <;>
    first | cases hstep | (cases ctx <;> cases hstep)
  all_goals simp_all [Harmless, Settled, quiescent_eq, inFailureTail, loopView]

theorem fires_take (r : Nat) : ∀ (polls : List (List RState)), detectorFires r polls = true →
    (polls.take (r + 1)).length = r + 1 ∧ (polls.take (r + 1)).all idle = true := by
  induction r with
  | zero =>
    intro polls h
    cases polls with
    | nil => simp [detectorFires] at h
    | cons p rest => simp [detectorFires] at h; simp [h]
  | succ r ih =>
    intro polls h
    cases polls with
    | nil => simp [detectorFires] at h
    | cons p rest =>
      simp only [detectorFires, Bool.and_eq_true] at h
      obtain ⟨h1, h2⟩ := ih rest h.2
      refine ⟨by simp [List.take, h1], ?_⟩
      simp only [List.take, List.all_cons, Bool.and_eq_true]
      exact ⟨h.1, h2⟩

theorem busy_poll_stops (r : Nat) (polls : List (List RState)) (i : Nat) (p : List RState) (hi : i ≤ r)
    (hp : polls[i]? = some p) (hidle : idle p = false) : detectorFires r polls = false :=
  Bool.eq_false_iff.mpr fun hf => by
    have hm : p ∈ polls.take (r + 1) := List.mem_of_getElem? ((List.getElem?_take_of_lt (by omega)).trans hp)
    rw [List.all_eq_true.mp (fires_take r polls hf).2 p hm] at hidle
    cases hidle

def stageName : Stage → String
  | .deploy => "deploy" | .deployFailed => "deploy_failed" | .enabling => "enabling" | .disabled => "disabled"
  | .starting => "starting" | .running => "running" | .outputs => "outputs" | .crashed => "crashed" | .closed => "closed"

/-- `failChain` is the fall-through chain of `markStageFailures` as extracted from the source -/
theorem failChain_matches_source :
    ∀ x ∈ [Stage.enabling, .disabled, .starting, .running, .outputs],
      Arca.Model.PluginStep.chainFrom Arca.Gen.pluginFailChain (stageName x) = some ((failChain x).map stageName) := by
  decide +kernel

end Arca.Proofs.PluginState
