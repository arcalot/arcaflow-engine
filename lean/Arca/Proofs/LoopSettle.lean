/-
What the repair of finding F11 achieves, on the run-loop model: when a step reports its completion, the loop settles
every stage of that step at once (`markRemainingStagesUnresolvable`), so nothing keeps waiting for a stage the step
will never go through.
-/
import Arca.Proofs.LoopSafe

namespace Arca.Model

/-- the node is not left waiting: it is resolved or unresolvable (or there is no such node) -/
def Settled (g : Graph String) (id : String) : Prop := ¬ statusIs g id St.waiting

theorem Settled.mono {g g' : Graph String} {id : String} (h : Settled g id) (hle : GLe g g') : Settled g' id := by
  rintro ⟨n', hn', hs'⟩
  obtain ⟨n, hn⟩ := Graph.find?_of_ids hle.ids.symm hn'
  by_cases hst : n.status = St.waiting
  · exact h ⟨n, hn, hst⟩
  · exact hst (statusIs_unique (hle.mono id _ hst ⟨n, hn, rfl⟩) ⟨n', hn', hs'⟩)

def StageSettled (P : Prepared) (g : Graph String) (step stage : String) : Prop :=
  Settled g (stageNodeId step stage) ∧ ∀ o ∈ P.outputsOf step stage, Settled g (outputNodeId step stage o)

theorem StageSettled.mono {P : Prepared} {g g' : Graph String} {step stage : String}
    (h : StageSettled P g step stage) (hle : GLe g g') : StageSettled P g' step stage :=
  ⟨h.1.mono hle, fun o ho => (h.2 o ho).mono hle⟩

def StepSettled (P : Prepared) (g : Graph String) (step : String) : Prop :=
  ∀ stage, P.declares step stage → StageSettled P g step stage

theorem StepSettled.mono {P : Prepared} {g g' : Graph String} {step : String} (h : StepSettled P g step)
    (hle : GLe g g') : StepSettled P g' step := fun stage hd => (h stage hd).mono hle

/-- a stage that declares outputs is reported finished together with one of them: the part of the provider contract the
statements need in addition to `LegalEvent` (both providers do: C12; checked on every generated history by `arcadrv`,
`legalEvent`) -/
def EventReports (P : Prepared) : Event → Prop
  | .stageChange step (some prev) out _ => out = none → P.outputsOf step prev = []
  | .stepComplete step prev out _ => out = none → P.outputsOf step prev = []
  | _ => True

/-- the converse of `FinishedInv`: a stage recorded in `finished` is settled -/
def FinConv (P : Prepared) (s : LoopState) : Prop :=
  ∀ step stage, (step, stage) ∈ s.finished → P.declares step stage → StageSettled P s.dag step stage

theorem FinConv.mono {P : Prepared} {s t : LoopState} (h : FinConv P s) (hle : GLe s.dag t.dag)
    (hf : t.finished = s.finished) : FinConv P t := by
  intro step stage hm hd
  rw [hf] at hm
  exact (h step stage hm hd).mono hle

theorem init_fin_conv (P : Prepared) : FinConv P (LoopState.init P) := fun _ _ h => nomatch h

theorem Marked.settled {g : Graph String} {id : String} (h : Marked g id) : Settled g id :=
  fun hw => nomatch h _ hw

theorem finConv_stable {P : Prepared} : Stable P (FinConv P) := fun _ _ c h => h.mono c.gle c.fin

theorem FinConv.cons {P : Prepared} {s t : LoopState} {step prev : String} (h : FinConv P s)
    (hle : GLe s.dag t.dag) (hf : t.finished = (step, prev) :: s.finished)
    (hs : StageSettled P t.dag step prev) : FinConv P t := by
  intro st sg hm hd
  rw [hf] at hm
  rcases List.mem_cons.1 hm with heq | hm
  · cases heq; exact hs
  · exact (h st sg hm hd).mono hle

section Mark
variable {P : Prepared}

theorem markRemaining_settles (step : String) (r : R) (hinv : r.1.dag.Inv)
    (hd : (markRemaining P step r).1.dead = false) (stage : String) (hdecl : P.declares step stage)
    (hnf : (step, stage) ∉ r.1.finished) : StageSettled P (markRemaining P step r).1.dag step stage := by
  rw [markRemaining_all] at hd ⊢
  have hm := fun site id hp =>
    (markAll_marked _ r hinv hd site id (mem_remainingMarks.2 ⟨stage, ⟨hdecl, hnf⟩, hp⟩)).settled
  exact ⟨hm _ _ (.inr rfl), fun o ho => hm _ _ (.inl (mem_outputMarks.2 ⟨o, ⟨ho, fun h => nomatch h⟩, rfl⟩))⟩

end Mark

section Legal
variable {P : Prepared}

theorem finishStage_settle (fns : Fns) (ord : Order) (step : String) (complete : Bool) (r : R) (hinv : r.1.dag.Inv)
    (hfc : FinConv P r.1) (halive : (finishStage P fns ord step complete r).1.dead = false) :
    FinConv P (finishStage P fns ord step complete r).1 ∧
      (complete = true → StepSettled P (finishStage P fns ord step complete r).1.dag step) := by
  refine ⟨finConv_stable _ _ (finishStage_calm hinv step complete) hfc, ?_⟩
  intro hc
  subst hc
  simp only [finishStage, ↓reduceIte] at halive ⊢
  have q := markRemaining_quiet (P := P) step r hinv
  have c := notifySteps_calm (P := P) (fns := fns) (ord := ord) (r := markRemaining P step r) q.gle.inv (notifyFuel P)
  intro stage hd
  by_cases hm : (step, stage) ∈ r.1.finished
  · exact ((hfc step stage hm hd).mono q.gle).mono c.gle
  · exact (markRemaining_settles step r hinv (c.alive halive) stage hd hm).mono c.gle

theorem onStageCompleteBody_settle (hP : P.WF2) (fns : Fns) (ord : Order) (hord : OrdOK ord) (hnd : OrdNodup ord)
    (step prev : String) (out : Option (String × Val)) (complete : Bool) (r : R) (hg : Good P r)
    (hf : FinishedInv P r.1) (hfc : FinConv P r.1) (hd : r.1.dead = false)
    (hl : LegalStageEnd P r.1.dag step prev out) (hrep : out = none → P.outputsOf step prev = []) :
    FinConv P (onStageCompleteBody P fns ord step prev out complete r).1 ∧
      (complete = true → StepSettled P (onStageCompleteBody P fns ord step prev out complete r).1.dag step) := by
  have hgood := onStageCompleteBody_good hP fns ord hord hnd step prev out complete r hg hf hd hl
  have halive : (onStageCompleteBody P fns ord step prev out complete r).1.dead = false :=
    reach_alive (onStageCompleteBody_reach (P := P) fns ord step prev out complete r) hd hgood.nopanic
  have hset : ∀ {g0 g : Graph String} {id : String}, g0.resolve id .resolved = .ok g → Settled g id := by
    intro g0 g id hok
    exact fun hw => nomatch statusIs_unique (Graph.resolve_status_self (by decide) hok) hw
  rcases (stageEnd_of_eq rfl).legal hP hg hd hl with
    ⟨g, ho, hok, hg1, hr⟩ | ⟨oid, v, g, g2, ho, hok, hok2, hg3, hal, hr⟩ <;> rw [hr] at halive ⊢
  · refine finishStage_settle fns ord step complete _ hg1.safe.inv ?_ halive
    refine hfc.cons (t := (stageDone step prev g r).1) (GLe.resolve hg.safe.inv hok) rfl ⟨hset hok, ?_⟩
    rw [hrep ho]
    exact fun _ h => nomatch h
  · have hle1 := GLe.resolve hg.safe.inv hok
    have hle2 := GLe.resolve hle1.inv hok2
    have q := markOutputsUnres_quiet (P := P) step prev (some oid) (stageDone step prev g2 r) hle2.inv
    refine finishStage_settle fns ord step complete (withStageData step prev oid v _) q.gle.inv ?_ halive
    refine hfc.cons (t := (withStageData step prev oid v _).1) ((hle1.trans hle2).trans q.gle) q.fin
      ⟨((hset hok).mono hle2).mono q.gle, fun o ho => ?_⟩
    by_cases hoo : o = oid
    · rw [hoo]; exact (hset hok2).mono q.gle
    · exact (markOutputsUnres_marked step prev (some oid) _ hle2.inv hal o ho
        (fun h => hoo (Option.some.inj h).symm)).settled

end Legal

section History
variable {P : Prepared}

theorem EventReports.stageEnd {P : Prepared} {step prev : String} {out : Option (String × Val)} {busy complete : Bool}
    (h : EventReports P (.stageEnd step prev out busy complete)) : out = none → P.outputsOf step prev = [] := by
  cases complete <;> exact h

/-- one legal callback keeps the recorded stages settled, and a legal completion callback of `step` leaves every stage
node and every declared stage-output node of `step` settled: none is left waiting -/
theorem react_settle (P : Prepared) (fns : Fns) (ord : Order) (hord : OrdOK ord) (hnd : OrdNodup ord) (hP : P.WF2)
    (s : LoopState) (e : Event) (h : LoopDagInv P s) (hc : LoopSafeInv P s) (hd : s.dead = false)
    (hfc : FinConv P s) (hl : LegalEvent P s e) (hr : EventReports P e) :
    FinConv P (react P fns ord s e).1 ∧
      ∀ step prev out busy, e = Event.stepComplete step prev out busy → StepSettled P (react P fns ord s e).1.dag step := by
  have hS := fun step prev out busy complete (he : e = .stageEnd step prev out busy complete) =>
    onStageCompleteBody_settle hP fns ord hord hnd step prev out complete (s, []) ⟨GSafe.of_inv h hc, fun _ h => nomatch h⟩
      hc.finished hfc hd (he ▸ hl).stageEnd (he ▸ hr).stageEnd
  refine ⟨finConv_stable.react fns ord h.inv hfc ?_ fun step prev out busy complete he => (hS _ _ _ _ _ he).1, ?_⟩
  · -- `start` records nothing as finished
    rintro input rfl
    have hle := GLe.pushStarting h.inv
    exact ⟨hfc.mono hle rfl, fun g hok => hfc.mono (hle.trans (GLe.resolve hle.inv hok)) rfl⟩
  · rintro step prev out busy rfl
    rw [react_stepComplete hd, (checkDeadlock_frame (P := P) 3 busy _).1]
    exact (hS step prev out busy true rfl).2 rfl

/-- along a legal history every step whose completion callback was processed is (and stays) settled -/
theorem runFrom_settle (P : Prepared) (fns : Fns) (ord : Order) (hord : OrdOK ord) (hnd : OrdNodup ord) (hP : P.WF2)
    (hist : List Event) :
    ∀ s, LoopDagInv P s → LoopSafeInv P s → s.dead = false → FinConv P s → LegalHistory P fns ord s hist →
      (∀ e ∈ hist, EventReports P e) →
      FinConv P (runFrom P fns ord s hist).1 ∧
      ∀ step, (∃ prev out busy, Event.stepComplete step prev out busy ∈ hist) →
        StepSettled P (runFrom P fns ord s hist).1.dag step := by
  induction hist with
  | nil =>
    intro s _ _ _ hfc _ _
    exact ⟨hfc, fun step ⟨_, _, _, hm⟩ => nomatch hm⟩
  | cons e es ih =>
    intro s hi hc hd hfc hl hr
    obtain ⟨hl1, hl2⟩ := hl
    rw [runFrom_cons]
    obtain ⟨⟨hi', hc', hd'⟩, _⟩ := react_legal_inv P fns ord hord hnd hP s e ⟨hi, hc, hd⟩ hl1
    obtain ⟨hfc', hset⟩ := react_settle P fns ord hord hnd hP s e hi hc hd hfc hl1 (hr e List.mem_cons_self)
    obtain ⟨h1, h2⟩ := ih _ hi' hc' hd' hfc' hl2 (fun e' he' => hr e' (List.mem_cons_of_mem _ he'))
    refine ⟨h1, ?_⟩
    rintro step ⟨prev, out, busy, hm⟩
    rcases List.mem_cons.1 hm with heq | hm
    · exact (hset step prev out busy heq.symm).mono (runFrom_gle P fns ord es _ hi'.inv)
    · exact h2 step ⟨prev, out, busy, hm⟩

def IsStepNode (P : Prepared) (id : String) : Prop :=
  ∃ step stage, P.declares step stage ∧
    (id = stageNodeId step stage ∨ ∃ o ∈ P.outputsOf step stage, id = outputNodeId step stage o)

theorem settled_source {g : Graph String} (hinv : g.Inv) {ed : String × String × Dep} (he : ed ∈ g.edges)
    (hs : Settled g ed.1) {n : Node String} (hn : g.find? ed.2.1 = some n) :
    ed.1 ∉ keys n.out ∧ (ed.2.2 = Dep.and → statusIs g ed.1 St.unres → n.status = St.unres) := by
  obtain ⟨m, hm⟩ := Graph.has_iff.1 (hinv.edge_nodes ed he).1
  refine ⟨?_, ?_⟩
  · cases hst : m.status with
    | waiting => exact absurd ⟨m, hm, hst⟩ hs
    | resolved => exact (hinv.src_resolved ed he m n hm hn hst).1
    | unres => exact (hinv.src_unres ed he m n hm hn hst).1
  · rintro hand ⟨m', hm', hs'⟩
    rw [hm] at hm'; cases hm'
    exact hinv.and_unres ed he hand m n hm hn hs'

theorem no_outstanding_of_settled {g : Graph String} (hinv : g.Inv) {x : String} {n : Node String}
    (hn : g.find? x = some n) (hall : ∀ ed ∈ g.edges, ed.2.1 = x → Settled g ed.1) : n.out = [] := by
  cases hout : n.out with
  | nil => rfl
  | cons p rest =>
    exfalso
    obtain ⟨hnm, hnid⟩ := Graph.find?_some hn
    have hp : p ∈ n.out := by rw [hout]; exact List.mem_cons_self
    obtain ⟨d, hed, _⟩ := hinv.out_edge n hnm p hp
    rw [hnid] at hed
    have := (settled_source hinv hed (hall _ hed rfl) hn).1
    exact this (mem_keys_of_mem hp)

end History

end Arca.Model
