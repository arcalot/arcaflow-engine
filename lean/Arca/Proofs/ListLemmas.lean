/-
Facts about lists, and one about `if`, that several regions need and core does not have.
-/
namespace List
variable {α β : Type}

theorem eq_of_nodup_map {f : α → β} {l : List α} (h : (l.map f).Nodup) {a b : α} (ha : a ∈ l) (hb : b ∈ l)
    (hab : f a = f b) : a = b :=
  have hp := pairwise_map.1 h
  Pairwise.forall_of_forall_of_flip (R := fun a b => f a = f b → a = b) (fun _ _ _ => rfl)
    (hp.imp fun h e => absurd e h) (hp.imp fun h e => absurd e.symm h) ha hb hab

theorem filter_length_le (l : List α) (p p' : α → Bool) (h : ∀ x ∈ l, p' x = true → p x = true) :
    (l.filter p').length ≤ (l.filter p).length := by
  rw [← countP_eq_length_filter, ← countP_eq_length_filter]
  exact countP_mono_left h

theorem filter_length_lt (l : List α) (p p' : α → Bool) (h : ∀ x ∈ l, p' x = true → p x = true)
    (hx : ∃ x ∈ l, p x = true ∧ p' x = false) : (l.filter p').length < (l.filter p).length := by
  have h1 : l.countP (fun a => p a && p' a) = l.countP p' := countP_congr fun x hx => by
    cases hp' : p' x
    · simp
    · simp [h x hx hp']
  rw [← countP_eq_length_filter, ← countP_eq_length_filter, countP_eq_countP_filter_add l p p', countP_filter,
    countP_filter, h1]
  obtain ⟨x, hxl, hp, hp'⟩ := hx
  exact Nat.lt_add_of_pos_right (countP_pos_iff.2 ⟨x, hxl, by simp [hp, hp']⟩)

theorem of_find?_decide {p : α → Prop} [DecidablePred p] {l : List α} {a : α}
    (h : l.find? (fun x => decide (p x)) = some a) : a ∈ l ∧ p a :=
  have h2 := find?_some h
  ⟨mem_of_find?_eq_some h, of_decide_eq_true h2⟩

theorem mem_map_inj {f : α → β} (hf : ∀ x y, f x = f y → x = y) {x : α} {l : List α} : f x ∈ l.map f ↔ x ∈ l :=
  ⟨fun h => by obtain ⟨y, hy, e⟩ := mem_map.1 h; exact hf _ _ e ▸ hy, mem_map_of_mem⟩

theorem eq_of_nodup_flatMap {f : α → List β} {l : List α} (h : (l.flatMap f).Nodup) {a b : α} {x : β}
    (ha : a ∈ l) (hb : b ∈ l) (hxa : x ∈ f a) (hxb : x ∈ f b) : a = b :=
  have hp := (pairwise_flatMap.1 h).2
  Pairwise.forall_of_forall_of_flip (R := fun a b => ∀ x, x ∈ f a → x ∈ f b → a = b) (fun _ _ _ _ _ => rfl)
    (hp.imp fun h x hx hy => absurd rfl (h x hx x hy)) (hp.imp fun h x hx hy => absurd rfl (h x hy x hx))
    ha hb x hxa hxb

theorem Nodup.of_map {f : α → β} {l : List α} (h : (l.map f).Nodup) : l.Nodup :=
  (pairwise_map.1 h).imp fun hne he => hne (congrArg f he)

theorem Nodup.concat {l : List α} {a : α} (h : l.Nodup) (ha : a ∉ l) : (l ++ [a]).Nodup :=
  nodup_append.2 ⟨h, nodup_cons.2 ⟨not_mem_nil, nodup_nil⟩, fun _ hb _ hc hbc => ha (mem_singleton.1 hc ▸ hbc ▸ hb)⟩

theorem find?_perm_unique {p : α → Bool} {l l' : List α} (hp : l.Perm l')
    (hu : ∀ a ∈ l, ∀ b ∈ l, p a = true → p b = true → a = b) : l.find? p = l'.find? p := by
  induction hp with
  | nil => rfl
  | cons x _ ih =>
    simp only [find?_cons]
    cases p x with
    | true => rfl
    | false => exact ih (fun a ha b hb => hu a (mem_cons_of_mem _ ha) b (mem_cons_of_mem _ hb))
  | swap x y l =>
    simp only [find?_cons]
    cases hx : p x <;> cases hy : p y <;> try rfl
    rw [hu x (by simp) y (by simp) hx hy]
  | trans h1 _ ih1 ih2 =>
    rw [ih1 hu]
    exact ih2 (fun a ha b hb => hu a (h1.mem_iff.2 ha) b (h1.mem_iff.2 hb))

theorem filter_congr_perm {p q : α → Bool} {l l' : List α} (h : l.Perm l') (hpq : ∀ x ∈ l, p x = q x) :
    (l.filter p).Perm (l'.filter q) :=
  filter_congr hpq ▸ h.filter q

theorem flatMap_append_perm {l : List α} {f g : α → List β} :
    (l.flatMap f ++ l.flatMap g).Perm (l.flatMap fun x => f x ++ g x) := by
  induction l with
  | nil => exact .refl _
  | cons a l ih =>
    simp only [flatMap_cons, append_assoc]
    exact (perm_append_comm_assoc _ _ _).append_left _ |>.trans ((ih.append_left _).append_left _)

theorem foldl_error {ε : Type} (F : Except ε β → α → Except ε β) (hF : ∀ e a, F (.error e) a = .error e)
    (l : List α) (e : ε) : l.foldl F (.error e) = .error e := by
  induction l with
  | nil => rfl
  | cons x r ih => rw [foldl_cons, hF, ih]

theorem foldl_ok_iff {ε : Type} (F : Except ε Unit → α → Except ε Unit) (hF : ∀ e a, F (.error e) a = .error e)
    (l : List α) : l.foldl F (.ok ()) = .ok () ↔ ∀ a ∈ l, F (.ok ()) a = .ok () := by
  induction l with
  | nil => simp
  | cons x r ih =>
    rw [foldl_cons, forall_mem_cons, ← ih]
    cases F (.ok ()) x with
    | error e => simp [foldl_error F hF]
    | ok u => simp

theorem foldl_error_of {ε : Type} {F : Except ε Unit → α → Except ε Unit} (hF : ∀ e a, F (.error e) a = .error e)
    {l : List α} {e : ε} (h : l.foldl F (.ok ()) = .error e) : ∃ a ∈ l, F (.ok ()) a = .error e := by
  induction l with
  | nil => cases h
  | cons x r ih =>
    rw [foldl_cons] at h
    cases hx : F (.ok ()) x with
    | error e' =>
      rw [hx, foldl_error F hF] at h
      exact ⟨x, mem_cons_self, hx.trans h⟩
    | ok u =>
      rw [hx] at h
      obtain ⟨p, hp, hv⟩ := ih h
      exact ⟨p, mem_cons_of_mem _ hp, hv⟩

end List

theorem Arca.Proofs.ite_eq_iff {α} {c : Prop} [Decidable c] {a b x : α} :
    (if c then a else b) = x ↔ c ∧ a = x ∨ ¬c ∧ b = x := by
  split <;> simp [*]
