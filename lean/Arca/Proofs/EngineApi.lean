/-
Whether `MergeFileCaches` succeeds is a matter of the root directories alone (`rootsOk`); what it returns when it
succeeds — the root directory of the last cache, every file under its last writer — does not depend on `filepath.Abs`
(`mergeFrom_eq`).  How this model of the discovery relates to `Arca.Model.SubWf`: header of `Proofs/YamlSubWf.lean`.
-/
import Arca.Model.EngineApi

namespace Arca.Proofs.EngineApi
open Arca.Model.EngineApi

/-- for the `decide +kernel` examples of C20 -/
instance {α : Type} [DecidableEq α] : DecidableEq (Except Err α) := fun a b =>
  match a, b with
  | .ok x, .ok y => if h : x = y then isTrue (by rw [h]) else isFalse (fun h' => by cases h'; exact h rfl)
  | .error x, .error y => if h : x = y then isTrue (by rw [h]) else isFalse (fun h' => by cases h'; exact h rfl)
  | .ok _, .error _ => isFalse (fun h => by cases h)
  | .error _, .ok _ => isFalse (fun h => by cases h)

theorem getFile_putFile (k k' : String) (v : CtxFile) (m : Files) :
    getFile k (putFile k' v m) = if k' = k then some v else getFile k m := by
  fun_induction putFile k' v m <;> grind [getFile]

theorem getFile_putAll (k : String) (src dst : Files) :
    getFile k (putAll src dst) = (getFile k src).or (getFile k dst) := by
  induction src with
  | nil => rfl
  | cons hd tl ih => grind [putAll, getFile_putFile, getFile]

theorem sameDirectory_iff (abs : String → String) (a b : String) :
    sameDirectory abs a b = true ↔ (a = b ∨ abs a = abs b) := by
  simp [sameDirectory]

def rootsOk (abs : String → String) (r : String) : List (Option FileCache) → Bool
  | [] => true
  | none :: cs => rootsOk abs r cs
  | some fc :: cs => (r == "" || sameDirectory abs r fc.rootDir) && rootsOk abs fc.rootDir cs

def lastRoot (r : String) : List (Option FileCache) → String
  | [] => r
  | none :: cs => lastRoot r cs
  | some fc :: cs => lastRoot fc.rootDir cs

def allFiles (fs : Files) : List (Option FileCache) → Files
  | [] => fs
  | none :: cs => allFiles fs cs
  | some fc :: cs => allFiles (putAll fc.files fs) cs

theorem mergeStep_pass {abs : String → String} {acc fc : FileCache}
    (h : (acc.rootDir == "" || sameDirectory abs acc.rootDir fc.rootDir) = true) :
    mergeStep abs acc fc = .ok { rootDir := fc.rootDir, files := putAll fc.files acc.files } :=
  if_neg fun hc => by simp [hc.1, hc.2] at h

theorem mergeStep_fail {abs : String → String} {acc fc : FileCache}
    (h : (acc.rootDir == "" || sameDirectory abs acc.rootDir fc.rootDir) = false) :
    mergeStep abs acc fc = .error .rootMismatch :=
  if_pos (by simpa using h)

theorem mergeFrom_eq (abs : String → String) (cs : List (Option FileCache)) (acc : FileCache) :
    mergeFrom abs acc cs =
      if rootsOk abs acc.rootDir cs then .ok { rootDir := lastRoot acc.rootDir cs, files := allFiles acc.files cs }
      else .error .rootMismatch := by
  induction cs generalizing acc with
  | nil => rfl
  | cons c r ih =>
    cases c with
    | none => exact ih acc
    | some fc =>
      rw [mergeFrom, rootsOk, lastRoot, allFiles]
      cases h : (acc.rootDir == "" || sameDirectory abs acc.rootDir fc.rootDir) with
      | false => rw [mergeStep_fail h]; rfl
      | true => rw [mergeStep_pass h, Bool.true_and]; exact ih _

theorem mergeFrom_error {abs : String → String} {cs : List (Option FileCache)} {acc : FileCache} {e : Err}
    (h : mergeFrom abs acc cs = .error e) : e = .rootMismatch := by
  rw [mergeFrom_eq] at h
  split at h <;> cases h
  rfl

theorem mergeFrom_ok {abs : String → String} {cs : List (Option FileCache)} {acc m : FileCache}
    (h : mergeFrom abs acc cs = .ok m) :
    rootsOk abs acc.rootDir cs = true ∧ m = { rootDir := lastRoot acc.rootDir cs, files := allFiles acc.files cs } := by
  rw [mergeFrom_eq] at h
  split at h <;> cases h
  exact ⟨‹_›, rfl⟩

theorem mergeFileCaches_pair (abs : String → String) (c₁ c₂ : FileCache) :
    mergeFileCaches abs [some c₁, some c₂] =
      if (c₁.rootDir == "" || sameDirectory abs c₁.rootDir c₂.rootDir) = true then
        .ok { rootDir := c₂.rootDir, files := putAll c₂.files (putAll c₁.files []) }
      else .error .rootMismatch := by
  rw [mergeFileCaches, mergeFrom_eq]
  simp only [rootsOk, beq_self_eq_true, Bool.true_or, Bool.true_and, Bool.and_true, lastRoot, allFiles]

theorem getFile_allFiles (k : String) (cs : List (Option FileCache)) (fs : Files) :
    getFile k (allFiles fs cs) = (lastWins k cs).or (getFile k fs) := by
  fun_induction allFiles fs cs <;> grind [lastWins, getFile_putAll]

theorem mergeFrom_getFile {abs : String → String} {cs : List (Option FileCache)} {acc m : FileCache}
    (h : mergeFrom abs acc cs = .ok m) (k : String) :
    getFile k m.files = (lastWins k cs).or (getFile k acc.files) := by
  rw [(mergeFrom_ok h).2, getFile_allFiles]

theorem lastRoot_append (r : String) (l₁ l₂ : List (Option FileCache)) :
    lastRoot r (l₁ ++ l₂) = lastRoot (lastRoot r l₁) l₂ := by
  fun_induction lastRoot r l₁ <;> simp_all [lastRoot]

theorem rootsOk_append (abs : String → String) (r : String) (l₁ l₂ : List (Option FileCache)) :
    rootsOk abs r (l₁ ++ l₂) = (rootsOk abs r l₁ && rootsOk abs (lastRoot r l₁) l₂) := by
  fun_induction rootsOk abs r l₁ <;> simp_all [rootsOk, lastRoot, Bool.and_assoc]

theorem rootsOk_same_dir {abs : String → String} {a r : String} {cs : List (Option FileCache)}
    (hr : r = "" ∨ abs r = a) (hcs : ∀ c, some c ∈ cs → abs c.rootDir = a) :
    rootsOk abs r cs = true ∧ (lastRoot r cs = "" ∨ abs (lastRoot r cs) = a) := by
  fun_induction rootsOk abs r cs <;> grind [lastRoot, sameDirectory_iff]

theorem rootsOk_roots {abs : String → String} {r : String} {cs : List (Option FileCache)}
    (hne : ∀ c, some c ∈ cs → c.rootDir ≠ "") (h : rootsOk abs r cs = true) :
    (∀ c, some c ∈ cs → abs c.rootDir = abs (lastRoot r cs)) ∧ (r ≠ "" → abs r = abs (lastRoot r cs)) := by
  fun_induction rootsOk abs r cs <;> grind [lastRoot, sameDirectory_iff]

theorem lastWins_eq (k : String) (cs : List (Option FileCache)) :
    lastWins k cs = cs.reverse.findSome? fun c => c.bind fun fc => getFile k fc.files := by
  induction cs with
  | nil => rfl
  | cons c r ih =>
    rw [List.reverse_cons, List.findSome?_append, ← ih]
    cases c <;> cases h : lastWins k r <;> simp [lastWins, h]

theorem lastWins_mem {k : String} {cs : List (Option FileCache)} {v : CtxFile} (h : lastWins k cs = some v) :
    ∃ c, some c ∈ cs ∧ getFile k c.files = some v := by
  rw [lastWins_eq] at h
  obtain ⟨c, hc, h⟩ := List.exists_of_findSome?_eq_some h
  cases c with
  | none => cases h
  | some fc => exact ⟨fc, List.mem_reverse.mp hc, h⟩

theorem lastWins_none {k : String} {cs : List (Option FileCache)} (h : lastWins k cs = none) :
    ∀ c, some c ∈ cs → getFile k c.files = none := by
  rw [lastWins_eq, List.findSome?_eq_none_iff] at h
  exact fun c hc => h (some c) (List.mem_reverse.mpr hc)

/-- the caches of a list agree on the content of every key two of them share -/
def Agree (cs : List (Option FileCache)) : Prop :=
  ∀ c₁ c₂ k v₁ v₂, some c₁ ∈ cs → some c₂ ∈ cs → getFile k c₁.files = some v₁ → getFile k c₂.files = some v₂ →
    v₁.content = v₂.content

theorem lastWins_content_perm {k : String} {cs cs' : List (Option FileCache)} (hp : cs.Perm cs') (ha : Agree cs) :
    (lastWins k cs).map (·.content) = (lastWins k cs').map (·.content) := by
  cases h : lastWins k cs with
  | none =>
    cases h' : lastWins k cs' with
    | none => rfl
    | some w =>
      obtain ⟨c, hc, hg⟩ := lastWins_mem h'
      cases (lastWins_none h c (hp.mem_iff.mpr hc)).symm.trans hg
  | some v =>
    obtain ⟨c, hc, hg⟩ := lastWins_mem h
    cases h' : lastWins k cs' with
    | none => cases (lastWins_none h' c (hp.mem_iff.mp hc)).symm.trans hg
    | some w =>
      obtain ⟨c', hc', hg'⟩ := lastWins_mem h'
      exact congrArg some (ha c c' k v w hc (hp.mem_iff.mpr hc') hg hg')

section
variable {P I D : Type}

theorem loadCache_cons (env : Env P I D) (rootDir f : String) (r : List String) :
    loadCache env rootDir (f :: r) =
      match loadCache env rootDir r with
      | .error e => .error e
      | .ok fc =>
        match env.readFile (resolve env (env.abs rootDir) f) with
        | none => .error .readError
        | some c =>
          .ok { fc with files := putFile f { id := f, absPath := resolve env (env.abs rootDir) f, content := c } fc.files } :=
  rfl

theorem loadCache_spec {env : Env P I D} {rootDir : String} {paths : List String} {fc : FileCache}
    (h : loadCache env rootDir paths = .ok fc) :
    fc.rootDir = env.abs rootDir ∧
    ∀ k v, getFile k fc.files = some v →
      v.absPath = resolve env (env.abs rootDir) k ∧ env.readFile (resolve env (env.abs rootDir) k) = some v.content := by
  induction paths generalizing fc with
  | nil =>
    cases h
    exact ⟨rfl, fun _ _ hg => by cases hg⟩
  | cons f r ih =>
    rw [loadCache_cons] at h
    grind [getFile_putFile]

end

end Arca.Proofs.EngineApi
