/-
The run loop over a graph that satisfies the graph invariants: what its reactions MEAN.  A stage is handed its input (a
workflow output is produced) only when its required dependencies are resolved and its completion dependencies settled,
with the item's data evaluated over the data model; resolved stage outputs have their data there; a stage with a failed
required dependency is never provided (C02, C03, C04, C15).
-/
import Arca.Proofs.DgraphInv
import Arca.Proofs.LoopLemmas
import Arca.Proofs.LoopDagLemmas

namespace Arca.Model

/-- the processing order only permutes (or drops) what `PopReadyNodes` returned: it cannot invent nodes -/
def OrdOK (ord : Order) : Prop := ∀ l, ∀ x ∈ ord l, x ∈ l

def Prepared.declares (P : Prepared) (step stage : String) : Prop :=
  ∃ sts outs, lookup step P.stages = some sts ∧ lookup stage sts = some outs

theorem declares_of_mem_outputsOf {P : Prepared} {step stage o : String} (h : o ∈ P.outputsOf step stage) :
    P.declares step stage := by
  unfold Prepared.outputsOf at h
  split at h
  · cases h
  · rename_i sts hsts
    cases hl : lookup stage sts with
    | none => rw [hl] at h; cases h
    | some outs => exact ⟨sts, outs, hsts, hl⟩

/--
What `Prepare` guarantees about the prepared workflow (checked on every real prepared DAG by the driver).

`stage_kind` speaks of *declared* stages only, `output_kind` and `output_unamb` of *declared outputs* of declared stages.
Unrestricted they are contradictory with the existence of any stage-output item (`WFOrig_no_stage_outputs`):
`outputNodeId a b c = stageNodeId a (b ++ "." ++ c)`, so an unrestricted `stage_kind` forces the item of every
stage-output node to have kind `stage`.  And `output_kind` for arbitrary `out` is false of real DAGs: the
dependency-group node of a tagged stage input has the id `<stage node id>.<path>` (`createGroupNode`), i.e. the shape
`outputNodeId step stage path`, with kind `group` (see `Cex.P2_wf`).
-/
structure Prepared.WF (P : Prepared) : Prop where
  inv : P.dag.Inv
  fresh : ∀ n ∈ P.dag.nodes, n.status = St.waiting ∧ n.res = []
  no_ready : P.dag.ready = []
  items_nodes : ∀ n ∈ P.dag.nodes, (lookup n.id P.items).isSome = true
  /-- node ids of stage and stage-output items are the ids the run loop computes -/
  stage_id : ∀ id it, lookup id P.items = some it → it.kind = Kind.stage → id = stageNodeId it.step it.stage
  output_id : ∀ id it, lookup id P.items = some it → it.kind = Kind.stageOutput →
      id = outputNodeId it.step it.stage it.output ∧ it.output ∈ P.outputsOf it.step it.stage
  /-- the ids the loop resolves explicitly for finished (declared) stages are stage / stage-output items -/
  stage_kind : ∀ step stage it, P.declares step stage →
      lookup (stageNodeId step stage) P.items = some it → it.kind = Kind.stage
  output_kind : ∀ step stage out it, P.declares step stage → out ∈ P.outputsOf step stage →
      lookup (outputNodeId step stage out) P.items = some it → it.kind = Kind.stageOutput
  /-- node ids of stage outputs are unambiguous (needed by `react_data_inv`): the id computed by the run loop
  for a declared output of a declared (step, stage) belongs to an item of that step and stage.  Without it an id such
  as `steps.a.b.c.d` can be read as step `a`, stage `b.c` by the item and as step `a.b`, stage `c` by the event. -/
  output_unamb : ∀ step stage out it, P.declares step stage → out ∈ P.outputsOf step stage →
      lookup (outputNodeId step stage out) P.items = some it →
      it.kind = Kind.stageOutput → it.step = step ∧ it.stage = stage

/-- `Prepared.WF` with `stage_kind` / `output_kind` unrestricted (and without `output_unamb`) -/
structure Prepared.WFOrig (P : Prepared) : Prop where
  inv : P.dag.Inv
  fresh : ∀ n ∈ P.dag.nodes, n.status = St.waiting ∧ n.res = []
  no_ready : P.dag.ready = []
  items_nodes : ∀ n ∈ P.dag.nodes, (lookup n.id P.items).isSome = true
  stage_id : ∀ id it, lookup id P.items = some it → it.kind = Kind.stage → id = stageNodeId it.step it.stage
  output_id : ∀ id it, lookup id P.items = some it → it.kind = Kind.stageOutput →
      id = outputNodeId it.step it.stage it.output ∧ it.output ∈ P.outputsOf it.step it.stage
  stage_kind : ∀ step stage it, lookup (stageNodeId step stage) P.items = some it → it.kind = Kind.stage
  output_kind : ∀ step stage out it, lookup (outputNodeId step stage out) P.items = some it → it.kind = Kind.stageOutput

/-- why `stage_kind` must be restricted: `WFOrig` excludes every workflow that has a stage-output item, which makes all
statements about `DataInv` vacuous -/
theorem WFOrig_no_stage_outputs (P : Prepared) (hP : P.WFOrig) (id : String) (it : Item)
    (hit : lookup id P.items = some it) : it.kind ≠ Kind.stageOutput := by
  intro hk
  have h1 := (hP.output_id id it hit hk).1
  rw [outputNodeId_eq_stageNodeId] at h1
  have := hP.stage_kind it.step (it.stage ++ "." ++ it.output) it (h1 ▸ hit)
  rw [hk] at this
  cases this

/-- the graph part of the loop invariant: the run works on a graph with the prepared workflow's nodes and edges -/
structure LoopDagInv (P : Prepared) (s : LoopState) : Prop where
  inv : s.dag.Inv
  edges : s.dag.edges = P.dag.edges
  ids : s.dag.nodes.map (·.id) = P.dag.nodes.map (·.id)

def statusIs (g : Graph String) (id : String) (st : St) : Prop := ∃ n, g.find? id = some n ∧ n.status = st

theorem statusOf_eq_iff (g : Graph String) (id : String) (st : St) : g.statusOf id = some st ↔ statusIs g id st := by
  unfold statusIs Graph.statusOf
  cases g.find? id <;> simp

/-- value stored in the data model for a stage output -/
def lookupData (data : Val) (step stage out : String) : Option Val :=
  match data with
  | .map top => match lookup "steps" top with
    | some (.map steps) => match lookup step steps with
      | some (.map sts) => match lookup stage sts with
        | some (.map outs) => lookup out outs
        | _ => none
      | _ => none
    | _ => none
  | _ => none

theorem mem_stagesOf_iff {P : Prepared} {step stage : String} : stage ∈ P.stagesOf step ↔ P.declares step stage := by
  unfold Prepared.stagesOf Prepared.declares
  cases lookup step P.stages with
  | none => simp
  | some sts => simp [← lookup_isSome_iff]

theorem statusIs_unique {g : Graph String} {id : String} {a b : St} (h1 : statusIs g id a) (h2 : statusIs g id b) :
    a = b := by
  obtain ⟨n, hn, rfl⟩ := h1
  obtain ⟨m, hm, rfl⟩ := h2
  rw [hn] at hm; cases hm; rfl

/-- `g'` is a later graph of the same run (`Later.gle`); `mono`: settled statuses are kept -/
structure GLe (g g' : Graph String) : Prop where
  inv : g'.Inv
  edges : g'.edges = g.edges
  ids : g'.nodes.map (·.id) = g.nodes.map (·.id)
  mono : ∀ id st, st ≠ St.waiting → statusIs g id st → statusIs g' id st

namespace GLe

theorem refl {g : Graph String} (h : g.Inv) : GLe g g := ⟨h, rfl, rfl, fun _ _ _ h => h⟩

theorem trans {a b c : Graph String} (h1 : GLe a b) (h2 : GLe b c) : GLe a c :=
  ⟨h2.inv, h2.edges.trans h1.edges, h2.ids.trans h1.ids, fun id st hst h => h2.mono id st hst (h1.mono id st hst h)⟩

theorem resolve {g g' : Graph String} {id : String} {st : St} (h : g.Inv) (hok : g.resolve id st = .ok g') :
    GLe g g' := by
  obtain ⟨h1, h2⟩ := Graph.resolve_frame g g' id st hok
  refine ⟨Graph.inv_resolve g g' id st h hok, h1, h2, ?_⟩
  rintro x s hs ⟨n, hn, rfl⟩
  exact Graph.resolve_status_mono g g' id x st n h hok hn hs

theorem pushStarting {g : Graph String} (h : g.Inv) : GLe g g.pushStarting :=
  ⟨Graph.inv_pushStarting h, rfl, rfl, fun _ _ _ h => h⟩

theorem popReady {g : Graph String} (h : g.Inv) : GLe g g.popReady.2 :=
  ⟨Graph.inv_popReady h, rfl, rfl, fun _ _ _ h => h⟩

end GLe

theorem Later.gle {g g' : Graph String} (h : Later g g') (hi : g.Inv) : GLe g g' := by
  induction h with
  | refl => exact GLe.refl hi
  | resolve id st _ hok ih => exact ih.trans (GLe.resolve ih.inv hok)
  | popReady _ ih => exact ih.trans (GLe.popReady ih.inv)
  | pushStarting _ ih => exact ih.trans (GLe.pushStarting ih.inv)

def DepsSettled (P : Prepared) (g : Graph String) (id : String) : Prop :=
  (∀ ed ∈ P.dag.edges, ed.2.1 = id → ed.2.2 = Dep.and → statusIs g ed.1 St.resolved) ∧
  (∀ ed ∈ P.dag.edges, ed.2.1 = id → ed.2.2 = Dep.cand → statusIs g ed.1 St.resolved ∨ statusIs g ed.1 St.unres)

theorem DepsSettled.mono {P : Prepared} {g g' : Graph String} {id : String} (h : DepsSettled P g id)
    (hle : GLe g g') : DepsSettled P g' id := by
  refine ⟨fun ed he h1 h2 => hle.mono _ _ (by decide) (h.1 ed he h1 h2), fun ed he h1 h2 => ?_⟩
  rcases h.2 ed he h1 h2 with h3 | h3
  · exact .inl (hle.mono _ _ (by decide) h3)
  · exact .inr (hle.mono _ _ (by decide) h3)

theorem Popped.ready {ord : Order} (hord : OrdOK ord) {gb cur : Graph String} {id : String} {st : St}
    (h : Popped ord gb cur id st) : ∃ g0, Later gb g0 ∧ Later g0 cur ∧ id ∈ g0.ready ∧ statusIs g0 id st := by
  obtain ⟨g0, h1, h2, hx⟩ := h
  exact ⟨g0, h1, h2, Graph.mem_popReady_iff.1 (hord _ _ hx)⟩

/-- `ready_sound` at pop time, transported to any later graph of the reaction -/
theorem Popped.deps {P : Prepared} {ord : Order} (hord : OrdOK ord) {gb cur : Graph String} {id : String} {st : St}
    (hinv : gb.Inv) (hgb : gb.edges = P.dag.edges) (h : Popped ord gb cur id st) (hst : st ≠ St.unres) :
    DepsSettled P cur id := by
  obtain ⟨g0, h1, h2, hr, n, hn, rfl⟩ := h.ready hord
  have h1 := h1.gle hinv
  have hed : g0.edges = P.dag.edges := h1.edges.trans hgb
  obtain ⟨hand, hcand, _⟩ := Graph.ready_sound g0 h1.inv id n hr hn hst
  refine DepsSettled.mono ⟨?_, ?_⟩ (h2.gle h1.inv)
  · intro ed he hto hty
    rw [← hed] at he
    obtain ⟨m, hm⟩ := Graph.has_iff.1 (h1.inv.edge_nodes ed he).1
    exact ⟨m, hm, (hand ed he hto hty m hm).1⟩
  · intro ed he hto hty
    rw [← hed] at he
    obtain ⟨m, hm⟩ := Graph.has_iff.1 (h1.inv.edge_nodes ed he).1
    have := hcand ed he hto hty m hm
    cases hs : m.status with
    | waiting => exact absurd hs this
    | resolved => exact .inl ⟨m, hm, hs⟩
    | unres => exact .inr ⟨m, hm, hs⟩

/-- where a `provide` / `output` action comes from: a popped node, not unresolvable, whose item's data resolves to the
value over the data model of `r`.  The graph it is resolved against (the one at the time of the step) is not recorded:
for `oneof` and `optional` data, whose value depends on the graph, this says only that some graph gives the value. -/
def Origin (P : Prepared) (fns : Fns) (ord : Order) (gb : Graph String) (r : R) : Action → Prop
  | .provide step stage v => ∃ id st it d, Popped ord gb r.1.dag id st ∧ st ≠ St.unres ∧
      lookup id P.items = some it ∧ it.kind = Kind.stage ∧ it.step = step ∧ it.stage = stage ∧
      it.data = some d ∧ ∃ g, resolveIn fns g r.1.data d = .ok v
  | .output oid v => ∃ id st it d, Popped ord gb r.1.dag id st ∧ st ≠ St.unres ∧
      lookup id P.items = some it ∧ it.kind = Kind.output ∧ it.output = oid ∧
      it.data = some d ∧ ∃ g, resolveIn fns g r.1.data d = .ok v
  | _ => True

section Acts
variable {P : Prepared} {fns : Fns} {ord : Order} {gb : Graph String}

theorem mem_snoc_cases {a : List Action} {x y : Action} (h : x ∈ a ++ [y]) : x ∈ a ∨ x = y := by
  simpa using h

theorem Origin.mono {a b : R} {x : Action} (h : Origin P fns ord gb a x) (hl : Later a.1.dag b.1.dag)
    (hd : b.1.data = a.1.data) : Origin P fns ord gb b x := by
  cases x <;> try trivial
  all_goals
    obtain ⟨id, st, it, d, hp, h⟩ := h
    exact ⟨id, st, it, d, hp.mono hl, hd ▸ h⟩

theorem StepN.frame {a b : R} (h : StepN P fns ord gb a b) :
    b.1.data = a.1.data ∧ b.1.finished = a.1.finished ∧ (b.1.dead = false → a.1.dead = false) := by
  cases h
  case sendErr | cancel | noMoreOut => simp only [sendErr_frame, doCancel_frame, imp_self, and_self]
  case die => exact ⟨rfl, rfl, fun h => nomatch h⟩
  all_goals exact ⟨rfl, rfl, id⟩

theorem StepN.acts {a b : R} (h : StepN P fns ord gb a b) :
    ∀ x ∈ b.2, x ∈ a.2 ∨ Origin P fns ord gb a x := by
  cases h
  case provide id st it d v hp hst hit hk hd hv =>
    intro x hx
    rcases mem_snoc_cases hx with hx | rfl
    · exact .inl hx
    · exact .inr ⟨id, st, it, d, hp, hst, hit, hk, rfl, rfl, hd, a.1.dag, hv⟩
  case output id st it d v hp hst hit hk hd hv _ =>
    intro x hx
    rcases mem_snoc_cases hx with hx | rfl
    · exact .inl hx
    · exact .inr ⟨id, st, it, d, hp, hst, hit, hk, rfl, hd, a.1.dag, hv⟩
  all_goals try simp only [emit, Arca.Model.die, Arca.Model.sendErr, doCancel]
  all_goals repeat' split
  all_goals intro x hx
  all_goals first
    | exact .inl hx
    | (rcases mem_snoc_cases hx with hx | rfl
       · exact .inl hx
       · exact .inr trivial)

theorem StepN.origin {a b : R} (h : StepN P fns ord gb a b) (ha : ∀ x ∈ a.2, Origin P fns ord gb a x) :
    ∀ x ∈ b.2, Origin P fns ord gb b x := fun x hx =>
  ((h.acts x hx).elim (ha x) id).mono h.later h.frame.1

theorem StepPre.acts {a b : R} (h : StepPre P a b) : ∀ x ∈ b.2, x ∈ a.2 ∨ ∀ r, Origin P fns ord gb r x := by
  cases h
  all_goals try simp only [Arca.Model.die, Arca.Model.sendErr, doCancel]
  all_goals repeat' split
  all_goals intro x hx
  all_goals first
    | exact .inl hx
    | (rcases mem_snoc_cases hx with hx | rfl
       · exact .inl hx
       · exact .inr fun _ => trivial)

end Acts

def EmitOK (P : Prepared) (fns : Fns) (s : LoopState) (id : String) (it : Item) (d : InVal) (v : Val) : Prop :=
  it.data = some d ∧ (∃ g, resolveIn fns g s.data d = .ok v) ∧ DepsSettled P s.dag id

def ActsOK (P : Prepared) (fns : Fns) (r : R) : Prop :=
  ∀ x ∈ r.2, match x with
    | .provide step stage v => ∃ id it d, lookup id P.items = some it ∧ it.kind = Kind.stage ∧ it.step = step ∧
        it.stage = stage ∧ EmitOK P fns r.1 id it d v
    | .output oid v => ∃ id it d, lookup id P.items = some it ∧ it.kind = Kind.output ∧ it.output = oid ∧
        EmitOK P fns r.1 id it d v
    | _ => True

theorem react_origin (P : Prepared) (fns : Fns) (ord : Order) (s : LoopState) (e : Event) :
    ∀ x ∈ (react P fns ord s e).2, Origin P fns ord s.dag (react P fns ord s e) x := by
  obtain ⟨b, h1, h2⟩ := react_decomp (P := P) fns ord s e
  refine h2.preserves (Q := fun r => ∀ x ∈ r.2, Origin P fns ord s.dag r x) (fun _ _ h => h.origin) fun x hx => ?_
  exact h1.preserves (Q := fun r => ∀ x ∈ r.2, ∀ r', Origin P fns ord s.dag r' x)
    (fun _ _ s ih x hx => (s.acts x hx).elim (ih x) id) (fun _ h => nomatch h) x hx b

/-- C02 `provide_after_deps`, C03 `result_sound`, C04 `no_start_without_deps`, C15 `wait_optional_settled_when_evaluated`
(the graph the data is resolved against: see `Origin`) -/
theorem react_actsOK (P : Prepared) (fns : Fns) (ord : Order) (hord : OrdOK ord) (s : LoopState) (e : Event)
    (h : LoopDagInv P s) : ActsOK P fns (react P fns ord s e) := by
  intro x hx
  have := react_origin P fns ord s e x hx
  cases x <;> try trivial
  · obtain ⟨id, st, it, d, hp, hst, hit, hk, h1, h2, hd, hv⟩ := this
    exact ⟨id, it, d, hit, hk, h1, h2, hd, hv, hp.deps hord h.inv h.edges hst⟩
  · obtain ⟨id, st, it, d, hp, hst, hit, hk, h1, hd, hv⟩ := this
    exact ⟨id, it, d, hit, hk, h1, hd, hv, hp.deps hord h.inv h.edges hst⟩

/-- the data model is a map (it is from `LoopState.init` on; `setStageData` only works on maps) -/
def DataMap (s : LoopState) : Prop := ∃ top, s.data = Val.map top

theorem lookupData_setStageData_self (top : List (String × Val)) (step stage out : String) (v : Val) :
    lookupData (setStageData (.map top) step stage out v) step stage out = some (serializedOutput v) := by
  simp [setStageData, lookupData, lookup_insertKv_self, lookup]

theorem lookupData_setStageData_other (top : List (String × Val)) (step stage out : String) (v : Val)
    (step' stage' out' : String) (hne : ¬ (step' = step ∧ stage' = stage))
    (h : (lookupData (.map top) step' stage' out').isSome = true) :
    (lookupData (setStageData (.map top) step stage out v) step' stage' out').isSome = true := by
  unfold lookupData at h
  simp only at h
  split at h
  next steps hsteps =>
    split at h
    next sts hsts =>
      simp only [setStageData, lookupData, hsteps, lookup_insertKv_self]
      by_cases h1 : step' = step
      · subst h1
        simpa only [hsts, lookup_insertKv_self, lookup_insertKv_other _ _ _ _ fun h2 => hne ⟨rfl, h2⟩] using h
      · simpa only [lookup_insertKv_other _ _ _ _ h1, hsts] using h
    next => cases h
  next => cases h

/-- SO = stage output: no such node is newly `resolved` from `g` to `g'` -/
def SONoNew (P : Prepared) (g g' : Graph String) : Prop :=
  ∀ id it, lookup id P.items = some it → it.kind = Kind.stageOutput →
    statusIs g' id St.resolved → statusIs g id St.resolved

def NoNewRes (g g' : Graph String) : Prop := ∀ x, statusIs g' x St.resolved → statusIs g x St.resolved

theorem resolve_newRes {g g' : Graph String} {id x : String} {st : St} (hok : g.resolve id st = .ok g')
    (hx : statusIs g' x St.resolved) : (x = id ∧ st = St.resolved) ∨ statusIs g x St.resolved := by
  obtain ⟨n', hn', hs'⟩ := hx
  exact Graph.resolve_resolved_only hok hn' hs'

theorem NoNewRes.resolve_unres {g g' : Graph String} {id : String} (hok : g.resolve id St.unres = .ok g') :
    NoNewRes g g' := by
  intro x hx
  rcases resolve_newRes hok hx with ⟨_, h⟩ | h
  · cases h
  · exact h

theorem SONoNew.resolve {P : Prepared} {g g' : Graph String} {id : String} {st : St}
    (hok : g.resolve id st = .ok g')
    (hid : ∀ it, lookup id P.items = some it → it.kind ≠ Kind.stageOutput) : SONoNew P g g' := by
  intro x it hit hk hx
  rcases resolve_newRes hok hx with ⟨rfl, _⟩ | h
  · exact absurd hk (hid it hit)
  · exact h

section DataSteps
variable {P : Prepared} {fns : Fns} {ord : Order} {gb : Graph String}

/-- What a piece of the loop does to the state when it makes no explicit update: the graph moves forward, the data
model and the finished stages stay, the loop is not revived, and every node newly `resolved` satisfies `K`. -/
structure Calm (K : String → Prop) (a b : R) : Prop where
  gle : GLe a.1.dag b.1.dag
  data : b.1.data = a.1.data
  fin : b.1.finished = a.1.finished
  alive : b.1.dead = false → a.1.dead = false
  newres : ∀ x, statusIs b.1.dag x St.resolved → statusIs a.1.dag x St.resolved ∨ K x

theorem Calm.trans {K : String → Prop} {a b c : R} (h1 : Calm K a b) (h2 : Calm K b c) : Calm K a c :=
  ⟨h1.gle.trans h2.gle, h2.data.trans h1.data, h2.fin.trans h1.fin, fun h => h1.alive (h2.alive h),
    fun x hx => (h2.newres x hx).elim (h1.newres x) .inr⟩

theorem Calm.frame {K : String → Prop} {a b : R} (hi : a.1.dag.Inv) (h : b.1.dag = a.1.dag ∧ b.1.data = a.1.data ∧
    b.1.finished = a.1.finished ∧ (b.1.dead = false → a.1.dead = false)) : Calm K a b :=
  ⟨h.1.symm ▸ GLe.refl hi, h.2.1, h.2.2.1, h.2.2.2, fun _ hx => .inl (h.1 ▸ hx)⟩

/-- ... and nothing is newly `resolved`: what marking does -/
abbrev Quiet : R → R → Prop := Calm fun _ => False

theorem Quiet.nonew {a b : R} (q : Quiet a b) : NoNewRes a.1.dag b.1.dag :=
  fun x hx => (q.newres x hx).resolve_right id

theorem Quiet.calm {K : String → Prop} {a b : R} (q : Quiet a b) : Calm K a b :=
  ⟨q.gle, q.data, q.fin, q.alive, fun x hx => (q.newres x hx).imp_right False.elim⟩

theorem markNode_quiet (site : PanicSite) (id : String) {r : R} (hi : r.1.dag.Inv) : Quiet r (markNode site id r) := by
  unfold markNode
  repeat' split
  all_goals first
    | exact .frame hi ⟨rfl, rfl, rfl, fun h => h⟩
    | exact .frame hi ⟨rfl, rfl, rfl, fun h => by cases h⟩
    | exact ⟨GLe.resolve hi ‹_›, rfl, rfl, fun h => h, fun x hx => .inl (NoNewRes.resolve_unres ‹_› x hx)⟩

/-- `id` is no node of `g`, or an unresolvable one: what marking leaves behind -/
def Marked (g : Graph String) (id : String) : Prop := ∀ st, statusIs g id st → st = St.unres

theorem Marked.mono {g g' : Graph String} {id : String} (h : Marked g id) (hle : GLe g g') : Marked g' id := by
  rintro st ⟨n', hn', hs'⟩
  obtain ⟨n, hn⟩ := Graph.find?_of_ids hle.ids.symm hn'
  have hu := h _ ⟨n, hn, rfl⟩
  exact statusIs_unique ⟨n', hn', hs'⟩ (hle.mono id _ (by decide) ⟨n, hn, hu⟩)

theorem markNode_marked {site : PanicSite} {id : String} {r : R} (hd : (markNode site id r).1.dead = false) :
    Marked (markNode site id r).1.dag id := by
  unfold markNode at hd ⊢
  split
  · rename_i hdd
    rw [if_pos hdd, hdd] at hd
    cases hd
  rename_i hdd
  rw [if_neg hdd] at hd
  split
  · rename_i hh
    rintro st ⟨n, hn, _⟩
    have : r.1.dag.has id = true := Graph.has_iff.2 ⟨n, hn⟩
    simp [this] at hh
  rename_i hh
  rw [if_neg hh] at hd
  split
  · rename_i g hok
    obtain ⟨n', hn', hs'⟩ := Graph.resolve_status_self (by decide) hok
    exact fun st h => statusIs_unique h ⟨n', hn', hs'⟩
  · rename_i e he
    rw [he] at hd
    cases hd

theorem markAll_quiet (l : List (PanicSite × String)) (r : R) (hinv : r.1.dag.Inv) : Quiet r (markAll l r) :=
  List.foldlRecOn l _ (motive := Quiet r) (.frame hinv ⟨rfl, rfl, rfl, id⟩)
    fun _ hb p _ => hb.trans (markNode_quiet p.1 p.2 hb.gle.inv)

theorem markAll_marked (l : List (PanicSite × String)) : ∀ r : R, r.1.dag.Inv → (markAll l r).1.dead = false →
    ∀ site id, (site, id) ∈ l → Marked (markAll l r).1.dag id := by
  induction l with
  | nil => exact fun _ _ _ _ _ h => nomatch h
  | cons p rest ih =>
    intro r hinv hd site id hq
    have q1 := markNode_quiet p.1 p.2 hinv
    have q2 := markAll_quiet rest _ q1.gle.inv
    rcases List.mem_cons.1 hq with rfl | hq
    · exact (markNode_marked (q2.alive hd)).mono q2.gle
    · exact ih _ q1.gle.inv hd _ _ hq

theorem mem_outputMarks {step stage : String} {skip : Option String} {p : PanicSite × String} :
    p ∈ outputMarks P step stage skip ↔ ∃ o, (o ∈ P.outputsOf step stage ∧ skip ≠ some o) ∧
      (PanicSite.markOutputsUnresolvable, outputNodeId step stage o) = p := by
  simp [outputMarks]

theorem mem_remainingMarks {step : String} {f : List (String × String)} {p : PanicSite × String} :
    p ∈ remainingMarks P step f ↔ ∃ stage, (P.declares step stage ∧ (step, stage) ∉ f) ∧
      (p ∈ outputMarks P step stage none ∨ p = (.markStageNodeUnresolvable, stageNodeId step stage)) := by
  simp [remainingMarks, mem_stagesOf_iff]

theorem markOutputsUnres_marked (step stage : String) (skip : Option String) (r : R) (hinv : r.1.dag.Inv)
    (hd : (markOutputsUnres P step stage skip r).1.dead = false) (o : String) (ho : o ∈ P.outputsOf step stage)
    (hs : skip ≠ some o) : Marked (markOutputsUnres P step stage skip r).1.dag (outputNodeId step stage o) := by
  rw [markOutputsUnres_all] at hd ⊢
  exact markAll_marked _ r hinv hd _ _ (mem_outputMarks.2 ⟨o, ⟨ho, hs⟩, rfl⟩)

theorem markOutputsUnres_quiet (step stage : String) (skip : Option String) (r : R) (hinv : r.1.dag.Inv) :
    Quiet r (markOutputsUnres P step stage skip r) :=
  markOutputsUnres_all step stage skip r ▸ markAll_quiet _ r hinv

theorem markRemaining_quiet (step : String) (r : R) (hinv : r.1.dag.Inv) : Quiet r (markRemaining P step r) :=
  markRemaining_all step r ▸ markAll_quiet _ r hinv

def isGroup (P : Prepared) (id : String) : Prop := ∃ it, lookup id P.items = some it ∧ it.kind = Kind.group

def isOutputNode (P : Prepared) (id : String) : Prop := ∃ it, lookup id P.items = some it ∧ it.kind = Kind.output

/-- the nodes the loop resolves itself when they become ready -/
def isProc (P : Prepared) (id : String) : Prop := isGroup P id ∨ isOutputNode P id

/-- the item of an id is unique (nothing about kinds, despite the name) -/
theorem lookup_kind_unique {P : Prepared} {id : String} {it it' : Item} (h : lookup id P.items = some it)
    (h' : lookup id P.items = some it') : it = it' := by
  rw [h] at h'; exact Option.some.inj h'

theorem isOutputNode.kind {P : Prepared} {id : String} {item : Item} (hitem : lookup id P.items = some item)
    (h : isOutputNode P id) : item.kind = Kind.output := by
  obtain ⟨it, hit, hk⟩ := h
  rwa [lookup_kind_unique hitem hit]

theorem isProc.kind {P : Prepared} {id : String} {item : Item} (hitem : lookup id P.items = some item)
    (h : isProc P id) : item.kind = Kind.group ∨ item.kind = Kind.output := by
  rcases h with ⟨it, hit, hk⟩ | h
  · exact Or.inl (by rwa [lookup_kind_unique hitem hit])
  · exact Or.inr (h.kind hitem)

theorem stage_not_proc (hP : P.WF) {step stage : String} (hd : P.declares step stage) :
    ¬ isProc P (stageNodeId step stage) := by
  rintro (⟨it, hit, hk⟩ | ⟨it, hit, hk⟩) <;> rw [hP.stage_kind step stage it hd hit] at hk <;> cases hk

theorem stageOutput_not_proc (hP : P.WF) {step stage o : String} (hd : P.declares step stage)
    (ho : o ∈ P.outputsOf step stage) : ¬ isProc P (outputNodeId step stage o) := by
  rintro (⟨it, hit, hk⟩ | ⟨it, hit, hk⟩) <;> rw [hP.output_kind step stage o it hd ho hit] at hk <;> cases hk

theorem StepN.calm {a b : R} (h : StepN P fns ord gb a b) (hi : a.1.dag.Inv) : Calm (isProc P) a b := by
  refine ⟨h.later.gle hi, h.frame.1, h.frame.2.1, h.frame.2.2, fun x hx => ?_⟩
  cases h
  case resolveItem id it g' hit hk hok =>
    exact (resolve_newRes hok hx).symm.imp_right fun ⟨h, _⟩ => h ▸ hk.imp (⟨it, hit, ·⟩) (⟨it, hit, ·⟩)
  case sendErr | cancel | noMoreOut => simp only [sendErr_frame, doCancel_frame] at hx; exact .inl hx
  all_goals exact .inl hx

theorem starN_calm {a b : R} (h : Star (StepN P fns ord gb) a b) (hi : a.1.dag.Inv) : Calm (isProc P) a b :=
  h.preserves (Q := Calm (isProc P) a) (fun _ _ s ih => ih.trans (s.calm ih.gle.inv)) (.frame hi ⟨rfl, rfl, rfl, id⟩)

theorem notifySteps_calm {r : R} (hi : r.1.dag.Inv) (f : Nat) : Calm (isProc P) r (notifySteps P fns ord f r) :=
  starN_calm (notifySteps_reachN (gb := r.1.dag) f r (.refl _)) hi

theorem finishStage_calm {r : R} (hi : r.1.dag.Inv) (step : String) (complete : Bool) :
    Calm (isProc P) r (finishStage P fns ord step complete r) := by
  unfold finishStage
  split
  · have q := markRemaining_quiet (P := P) step r hi
    exact q.calm.trans (notifySteps_calm q.gle.inv _)
  · exact notifySteps_calm hi _

theorem checkDeadlock_calm {K : String → Prop} {r : R} (hi : r.1.dag.Inv) (retries : Nat) (busy : Bool) :
    Calm K r (checkDeadlock P retries busy r) := by
  obtain ⟨h1, h2, h3, h4⟩ := checkDeadlock_frame (P := P) retries busy r
  exact .frame hi ⟨h1, h2, h3, h4 ▸ id⟩

theorem Abort.calm {K : String → Prop} {r r' : R} (h : Abort P r r') (hi : r.1.dag.Inv) : Calm K r r' :=
  .frame hi h.frame

def Stable (P : Prepared) (J : LoopState → Prop) : Prop := ∀ a b : R, Calm (isProc P) a b → J a.1 → J b.1

/-- What `Stable` is for: such an invariant is kept by every reaction, provided the explicit updates keep it: those of
`start` (the two states `react_start` names), and those of a stage end up to the end of `onStageComplete`. -/
theorem Stable.react {J : LoopState → Prop} (hJ : Stable P J) (fns : Fns) (ord : Order) {s : LoopState} {e : Event}
    (hi : s.dag.Inv) (hs : J s)
    (hstart : ∀ input, e = .start input → J { s with data := initData P input, dag := s.dag.pushStarting } ∧
      ∀ g, s.dag.pushStarting.resolve "input" .resolved = .ok g → J { s with data := initData P input, dag := g })
    (hstage : ∀ step prev out busy complete, e = .stageEnd step prev out busy complete →
      J (onStageCompleteBody P fns ord step prev out complete (s, [])).1) :
    J (react P fns ord s e).1 := by
  cases hd : s.dead with
  | true => rw [react_dead P fns ord s e hd]; exact hs
  | false =>
  have hosc : ∀ {step prev out complete busy},
      J (onStageCompleteBody P fns ord step prev out complete (s, [])).1 →
      J (checkDeadlock P 3 busy (onStageCompleteBody P fns ord step prev out complete (s, []))).1 :=
    fun {step prev out complete busy} h => hJ _ _ (checkDeadlock_calm
      ((onStageCompleteBody_decomp (gb := s.dag) (.refl _)).later.gle hi).inv 3 busy) h
  cases e with
  | start input =>
    rcases react_start (P := P) (fns := fns) (ord := ord) hd input with hr | ⟨g, hok, hr⟩ <;> rw [hr]
    · exact (hstart input rfl).1
    · exact hJ _ _ (notifySteps_calm (GLe.resolve (Graph.inv_pushStarting hi) hok).inv _) ((hstart input rfl).2 g hok)
  | stageChange step prev out busy =>
    cases prev with
    | none => rw [react_stageChange_none]; exact hs
    | some p => rw [react_stageChange hd]; exact hosc (hstage step p out busy false rfl)
  | stepComplete step prev out busy =>
    rw [react_stepComplete hd]; exact hosc (hstage step prev out busy true rfl)
  | stageFail step stage =>
    rw [react_stageFail hd]
    have q := markOutputsUnres_quiet (P := P) step stage none (s, []) hi
    have q : Quiet _ _ := q.trans (markNode_quiet .markStageNodeUnresolvable (stageNodeId step stage) q.gle.inv)
    split
    · exact hJ _ _ q.calm hs
    · exact hJ _ _ (q.calm.trans (notifySteps_calm q.gle.inv _)) hs
  | tick retries busy =>
    rw [react_tick hd]
    split
    · exact hs
    · exact hJ _ _ (checkDeadlock_calm (r := (s, [])) hi retries busy) hs
  | drain => rw [react_drain hd]; exact hJ _ _ (.frame (a := (s, [])) hi ⟨rfl, rfl, rfl, id⟩) hs

end DataSteps

theorem item_of_node {P : Prepared} (hI : ∀ n ∈ P.dag.nodes, (lookup n.id P.items).isSome = true)
    {g : Graph String} (hids : g.nodes.map (·.id) = P.dag.nodes.map (·.id)) {id : String} {n : Node String}
    (hn : g.find? id = some n) : ∃ it, lookup id P.items = some it := by
  obtain ⟨hnm, rfl⟩ := Graph.find?_some hn
  have hmem : n.id ∈ P.dag.nodes.map (·.id) := hids ▸ List.mem_map_of_mem hnm
  obtain ⟨n0, hn0, hid0⟩ := List.mem_map.1 hmem
  exact Option.isSome_iff_exists.1 (hid0 ▸ hI n0 hn0)

theorem init_dag_inv (P : Prepared) (h : P.WF) : LoopDagInv P (LoopState.init P) :=
  ⟨Graph.inv_clone h.inv, rfl, rfl⟩

theorem LoopDagInv.gle {P : Prepared} {s t : LoopState} (h : LoopDagInv P s) (hle : GLe s.dag t.dag) :
    LoopDagInv P t :=
  ⟨hle.inv, hle.edges.trans h.edges, hle.ids.trans h.ids⟩

theorem react_gle (P : Prepared) (fns : Fns) (ord : Order) (s : LoopState) (e : Event) (hs : s.dag.Inv) :
    GLe s.dag (react P fns ord s e).1.dag :=
  (react_decomp (P := P) fns ord s e).later.gle hs

theorem runFrom_gle (P : Prepared) (fns : Fns) (ord : Order) (hist : List Event) (s : LoopState) (hs : s.dag.Inv) :
    GLe s.dag (runFrom P fns ord s hist).1.dag :=
  runFrom_inv (I := fun t => GLe s.dag t.dag) (fun t e ht => ht.trans (react_gle P fns ord t e ht.inv)) hist s
    (GLe.refl hs)

theorem react_dag_inv (P : Prepared) (fns : Fns) (ord : Order) (s : LoopState) (e : Event)
    (h : LoopDagInv P s) : LoopDagInv P (react P fns ord s e).1 :=
  h.gle (react_gle P fns ord s e h.inv)

theorem run_dag_inv (P : Prepared) (fns : Fns) (ord : Order) (hP : P.WF) (h : List Event) :
    LoopDagInv P (run P fns ord h).1 :=
  runFrom_inv (react_dag_inv P fns ord) h _ (init_dag_inv P hP)

theorem react_status_mono (P : Prepared) (fns : Fns) (ord : Order) (s : LoopState) (e : Event)
    (h : LoopDagInv P s) (id : String) (st : St) (hst : st ≠ St.waiting) (hs : statusIs s.dag id st) :
    statusIs (react P fns ord s e).1.dag id st :=
  (react_gle P fns ord s e h.inv).mono id st hst hs

theorem react_no_provide_unres (P : Prepared) (fns : Fns) (ord : Order) (hord : OrdOK ord) (hP : P.WF)
    (s : LoopState) (e : Event) (h : LoopDagInv P s) (id : String) (it : Item) (hit : lookup id P.items = some it)
    (hk : it.kind = Kind.stage) (hun : statusIs s.dag id St.unres) :
    ∀ v, Action.provide it.step it.stage v ∉ (react P fns ord s e).2 := by
  intro v hv
  -- the node was popped, not unresolvable, from a graph after `s.dag`, where it is unresolvable
  obtain ⟨id', st, it', d, hp, hst, hit', hk', h3, h4, _⟩ := react_origin P fns ord s e _ hv
  have hid : id' = id := by
    rw [hP.stage_id id' it' hit' hk', hP.stage_id id it hit hk, h3, h4]
  subst hid
  obtain ⟨g0, hle, _, _, hs0⟩ := hp.ready hord
  exact hst (statusIs_unique hs0 ((hle.gle h.inv).mono _ _ (by decide) hun))

/-- C04: a stage one of whose required dependencies is unresolvable is never provided afterwards -/
theorem failed_prereq_never_provided (P : Prepared) (fns : Fns) (ord : Order) (hord : OrdOK ord)
    (hP : P.WF) (s : LoopState) (h : LoopDagInv P s) (hist : List Event)
    (id : String) (it : Item) (hit : lookup id P.items = some it) (hk : it.kind = Kind.stage)
    (ed : String × String × Dep) (hed : ed ∈ P.dag.edges) (hto : ed.2.1 = id) (hand : ed.2.2 = Dep.and)
    (hun : statusIs s.dag ed.1 St.unres) :
    ∀ v, Action.provide it.step it.stage v ∉ (runFrom P fns ord s hist).2 := by
  -- the stage node itself is unresolvable, and stays so
  have hun' : statusIs s.dag id St.unres := by
    obtain ⟨m, hm, hms⟩ := hun
    have he : ed ∈ s.dag.edges := h.edges ▸ hed
    obtain ⟨n, hn⟩ := Graph.has_iff.1 (h.inv.edge_nodes ed he).2
    exact ⟨n, hto ▸ hn, h.inv.and_unres ed he hand m n hm hn hms⟩
  intro v hv
  exact (runFrom_preserves (I := fun s => LoopDagInv P s ∧ statusIs s.dag id St.unres) (E := fun _ _ => True)
    (H := fun _ _ => True) (A := fun a => ∀ v, a ≠ Action.provide it.step it.stage v)
    (fun _ _ _ _ => ⟨trivial, trivial⟩)
    (fun s e hs _ => ⟨⟨react_dag_inv P fns ord s e hs.1, react_status_mono P fns ord s e hs.1 id _ (by decide) hs.2⟩,
      fun a ha v hv => react_no_provide_unres P fns ord hord hP s e hs.1 id it hit hk hs.2 v (hv ▸ ha)⟩)
    hist s ⟨h, hun'⟩ trivial).2 _ hv v rfl

/-- resolved stage-output nodes have their value in the data model (while the loop is alive) -/
def DataInv (P : Prepared) (s : LoopState) : Prop :=
  s.dead = false → ∀ id it, lookup id P.items = some it → it.kind = Kind.stageOutput →
    statusIs s.dag id St.resolved → (lookupData s.data it.step it.stage it.output).isSome = true

/-- no stage-output node is resolved (true of the initial state: hypothesis of the `start` event, which resets the
data model) -/
def NoOutputResolved (P : Prepared) (s : LoopState) : Prop :=
  ∀ id it, lookup id P.items = some it → it.kind = Kind.stageOutput → ¬ statusIs s.dag id St.resolved

/-- stage-change callbacks name declared stages (the engine registers them for the stages of the prepared steps), and
an output they report is declared for that stage (what C12 guarantees of the providers) -/
def EventDeclared (P : Prepared) : Event → Prop
  | .stageChange step (some prev) out _ =>
      P.declares step prev ∧ ∀ oid v, out = some (oid, v) → oid ∈ P.outputsOf step prev
  | .stepComplete step prev out _ =>
      P.declares step prev ∧ ∀ oid v, out = some (oid, v) → oid ∈ P.outputsOf step prev
  | _ => True

def EventOK (P : Prepared) (s : LoopState) (e : Event) : Prop :=
  EventDeclared P e ∧ ∀ input, e = Event.start input → NoOutputResolved P s

section DataInvLemmas
variable {P : Prepared} {fns : Fns} {ord : Order}

theorem dataInv_of_none {t : LoopState} (h : NoOutputResolved P t) : DataInv P t :=
  fun _ id it hit hk hs => absurd hs (h id it hit hk)

theorem DataInv.mono {s t : LoopState} (hd : DataInv P s) (hdead : t.dead = false → s.dead = false)
    (hdata : t.data = s.data) (hso : SONoNew P s.dag t.dag) : DataInv P t :=
  fun h id it hit hk hs => hdata ▸ hd (hdead h) id it hit hk (hso id it hit hk hs)

theorem dataInv_stable : Stable P (DataInv P) := fun _ _ c hd =>
  hd.mono c.alive c.data fun x it hit hk hx => (c.newres x hx).elim id fun hp => by
    rcases hp.kind hit with h | h <;> rw [hk] at h <;> cases h

theorem EventDeclared.stageEnd {step prev : String} {out : Option (String × Val)} {busy complete : Bool}
    (h : EventDeclared P (.stageEnd step prev out busy complete)) :
    P.declares step prev ∧ ∀ oid v, out = some (oid, v) → oid ∈ P.outputsOf step prev := by
  cases complete <;> exact h

theorem onStageCompleteBody_data (hP : P.WF) (fns : Fns) (ord : Order) (step prev : String)
    (out : Option (String × Val)) (complete : Bool) (r : R) (hinv : r.1.dag.Inv)
    (hd : DataInv P r.1) (hm : DataMap r.1) (hdecl : P.declares step prev)
    (hout : ∀ oid v, out = some (oid, v) → oid ∈ P.outputsOf step prev) :
    DataInv P (onStageCompleteBody P fns ord step prev out complete r).1 := by
  generalize hr : onStageCompleteBody P fns ord step prev out complete r = r'
  -- resolving the stage node resolves no stage-output node
  have h1 : ∀ {g}, r.1.dag.resolve (stageNodeId step prev) .resolved = .ok g →
      g.Inv ∧ SONoNew P r.1.dag g := fun {g} hok => by
    refine ⟨(GLe.resolve hinv hok).inv, SONoNew.resolve hok ?_⟩
    intro it hit hk
    rw [hP.stage_kind step prev it hdecl hit] at hk
    cases hk
  cases stageEnd_of_eq hr with
  | abort _ ha => exact dataInv_stable _ _ (ha.calm hinv) hd
  | noOutput hok =>
    exact dataInv_stable _ _ (finishStage_calm (r := stageDone step prev _ r) (h1 hok).1 step complete)
      (hd.mono id rfl (h1 hok).2)
  | abortOutput hok _ ha =>
    exact dataInv_stable _ _ (ha.calm (r := stageDone step prev _ r) (h1 hok).1) (hd.mono id rfl (h1 hok).2)
  | markDied _ _ hdd => exact fun h => nomatch hdd.symm.trans h
  | @output g g2 oid v hok hok2 hal =>
    obtain ⟨hinv1, hso1⟩ := h1 hok
    have hinv2 := (GLe.resolve hinv1 hok2).inv
    have q := markOutputsUnres_quiet (P := P) step prev (some oid) (stageDone step prev g2 r) hinv2
    refine dataInv_stable _ _ (finishStage_calm (r := withStageData step prev oid v _) q.gle.inv step complete) ?_
    intro _ id it hit hk hres
    obtain ⟨top, htop⟩ := hm
    have hdat : (markOutputsUnres P step prev (some oid) (stageDone step prev g2 r)).1.data = .map top :=
      q.data.trans htop
    simp only [hdat]
    by_cases hsp : it.step = step ∧ it.stage = prev
    · -- an output of this stage: the reported one has its data now, the others were marked unresolvable
      obtain ⟨hs1, hs2⟩ := hsp
      by_cases ho : it.output = oid
      · rw [hs1, hs2, ho, lookupData_setStageData_self]; rfl
      · exfalso
        obtain ⟨hid, hmem⟩ := hP.output_id id it hit hk
        rw [hs1, hs2] at hid hmem
        exact nomatch markOutputsUnres_marked step prev (some oid) _ hinv2 hal it.output hmem
          (fun h => ho (Option.some.inj h).symm) St.resolved (hid ▸ hres)
    · -- an output of another stage was resolved before, and keeps its data
      rcases resolve_newRes hok2 (q.nonew id hres) with ⟨rfl, _⟩ | hres4
      · exact absurd (hP.output_unamb step prev oid it hdecl (hout oid v rfl) hit hk) hsp
      · have hold := hd (q.alive hal) id it hit hk (hso1 id it hit hk hres4)
        rw [htop] at hold
        exact lookupData_setStageData_other top step prev oid v _ _ _ hsp hold

end DataInvLemmas

theorem init_not_resolved (P : Prepared) (hP : P.WF) (id : String) :
    ¬ statusIs (LoopState.init P).dag id St.resolved := by
  rintro ⟨n, hn, hs⟩
  have := (hP.fresh n (Graph.find?_some hn).1).1
  rw [this] at hs
  cases hs

theorem init_no_output_resolved (P : Prepared) (hP : P.WF) : NoOutputResolved P (LoopState.init P) :=
  fun id _ _ _ => init_not_resolved P hP id

theorem init_data_inv (P : Prepared) (hP : P.WF) : DataInv P (LoopState.init P) :=
  dataInv_of_none (init_no_output_resolved P hP)

theorem init_data_map (P : Prepared) : DataMap (LoopState.init P) := ⟨[], rfl⟩

/--
Executable counterexamples to the statement without `hm` or `hev` are in `LoopDagCex.lean` (CE1–CE5):
* `hm` because the data model must be a map (`setStageData` silently does nothing on other values); it is one from
  `LoopState.init` on (`init_data_map`, `react_data_map`);
* `hev : EventOK P s e` because a stage-change callback must name a declared stage (otherwise the "stage node" it
  resolves can be a stage-output node) and a declared output of it (CE5), and `start` — which replaces the whole data
  model — must be delivered while no stage output is resolved (`init_no_output_resolved`).
-/
theorem react_data_inv (P : Prepared) (fns : Fns) (ord : Order) (hP : P.WF) (s : LoopState) (e : Event)
    (h : LoopDagInv P s) (hd : DataInv P s) (hm : DataMap s) (hev : EventOK P s e) :
    DataInv P (react P fns ord s e).1 := by
  refine dataInv_stable.react fns ord h.inv hd ?_ fun step prev out busy complete he =>
    onStageCompleteBody_data hP fns ord step prev out complete (s, []) h.inv hd hm (he ▸ hev.1).stageEnd.1
      (he ▸ hev.1).stageEnd.2
  -- `start` replaces the data model, but no stage output is resolved, and resolving `input` resolves none
  rintro input rfl
  have hno := hev.2 input rfl
  refine ⟨dataInv_of_none hno, fun g hok => dataInv_of_none fun id it hit hk hres => hno id it hit hk ?_⟩
  refine SONoNew.resolve hok (fun it hit hk => ?_) id it hit hk hres
  exact absurd (hP.output_id "input" it hit hk).1 (input_ne_outputNodeId _ _ _)

theorem StepPre.dataMap {P : Prepared} {a b : R} (h : StepPre P a b) (ha : DataMap a.1) : DataMap b.1 := by
  cases h
  case initData input => exact ⟨_, rfl⟩
  case stageData step stage out v =>
    obtain ⟨top, htop⟩ := ha
    exact ⟨_, by simp only [htop]; rfl⟩
  all_goals try simp only [DataMap, sendErr_frame, doCancel_frame]
  all_goals exact ha

theorem react_data_map (P : Prepared) (fns : Fns) (ord : Order) (s : LoopState) (e : Event)
    (hm : DataMap s) : DataMap (react P fns ord s e).1 := by
  obtain ⟨b, h1, h2⟩ := react_decomp (P := P) fns ord s e
  obtain ⟨top, htop⟩ := h1.preserves (Q := fun r => DataMap r.1) (fun _ _ => StepPre.dataMap) hm
  exact ⟨top, (h2.preserves (Q := fun r => r.1.data = b.1.data) (fun _ _ s ih => s.frame.1.trans ih) rfl).trans htop⟩

theorem runFrom_data_inv (P : Prepared) (fns : Fns) (ord : Order) (hP : P.WF) (hist : List Event)
    (hh : ∀ e ∈ hist, EventDeclared P e ∧ ∀ input, e ≠ Event.start input)
    (s : LoopState) (h : LoopDagInv P s) (hd : DataInv P s) (hm : DataMap s) :
    DataInv P (runFrom P fns ord s hist).1 ∧ DataMap (runFrom P fns ord s hist).1 :=
  ((runFrom_preserves (I := fun s => LoopDagInv P s ∧ DataInv P s ∧ DataMap s)
    (E := fun _ e => EventDeclared P e ∧ ∀ input, e ≠ Event.start input)
    (H := fun _ hist => ∀ e ∈ hist, EventDeclared P e ∧ ∀ input, e ≠ Event.start input) (A := fun _ => True)
    (fun _ e _ hh => ⟨hh e List.mem_cons_self, fun e' he' => hh e' (List.mem_cons_of_mem _ he')⟩)
    (fun s e ⟨h, hd, hm⟩ he => ⟨⟨react_dag_inv P fns ord s e h,
      react_data_inv P fns ord hP s e h hd hm ⟨he.1, fun input h => absurd h (he.2 input)⟩,
      react_data_map P fns ord s e hm⟩, fun _ _ => trivial⟩)
    hist s ⟨h, hd, hm⟩ hh).1).2

end Arca.Model
