/-
`normalise` against `valid` and `conforms`.  Each result is a pair of theorems about `Ty` and `Props`, proved together by
recursion on the schema as the functions are defined; the object case calls the theorem for the type of the single
property of a one-property object (the inlined spelling).
-/
import Arca.Proofs.TyLemmas

namespace Arca.Proofs.Ty
open Arca.Model

mutual
  theorem normalise_isOk : (t : Ty) → (v : Val) → tyOk (normalise t v) = valid t v
    | .str .., _ | .int .., _ | .bool, _ | .float, _ => by simp only [normalise, valid]
    | .list item mn mx, v => by
      simp only [normalise, valid]
      split
      · next xs =>
        rw [← mapE_isOk (normalise item) (valid item) xs (fun x _ => normalise_isOk item x)]
        cases lenOk mn mx xs.length
        · rfl
        · simp only [if_true, Bool.true_and]; cases mapE (normalise item) xs <;> rfl
      · rfl
    | .map val, v => by
      simp only [normalise, valid]
      split
      · next kvs =>
        rw [← mapE_isOk (fun kv : String × Val => match normalise val kv.2 with
              | .ok w => (Except.ok (kv.1, w) : Except TyErr (String × Val))
              | .error e => .error e) (fun kv => valid val kv.2) kvs
          (fun kv _ => by rw [← normalise_isOk val kv.2]; cases normalise val kv.2 <;> rfl)]
        cases mapE _ kvs <;> rfl
      · rfl
    | .obj ps, v => by
      unfold normalise valid
      split
      · next kvs =>
        rw [← normProps_isOk ps kvs]
        split
        · next hk => rw [hk, Bool.true_and]; cases normProps ps kvs <;> rfl
        · next hk => rw [Bool.not_eq_true] at hk; rw [hk]; rfl
      · match ps with
        | .cons _ _ _ ty .nil => simp only [← normalise_isOk ty]; cases normalise ty _ <;> rfl
        | .nil | .cons _ _ _ _ (.cons ..) => rfl
  theorem normProps_isOk : (ps : Props) → (kvs : List (String × Val)) → tyOk (normProps ps kvs) = validProps ps kvs
    | .nil, _ => rfl
    | .cons n r d ty rest, kvs => by
      simp only [normProps, validProps, ← normalise_isOk ty, ← normProps_isOk rest]
      split
      · next x _ =>
        cases normalise ty x
        · rfl
        · cases normProps rest kvs <;> rfl
      · cases r <;> simp [tyOk]
end

theorem chkStr_conforms {mn mx p s w} (h : chkStr mn mx p s = .ok w) : conforms (.str mn mx p) w = true := by
  unfold chkStr at h
  split at h
  · next hs => cases h; simpa only [conforms] using hs
  · cases h

theorem normStr_conforms {mn mx p v w} (h : normStr mn mx p v = .ok w) : conforms (.str mn mx p) w = true := by
  unfold normStr at h
  split at h
  · exact chkStr_conforms h
  · exact chkStr_conforms h
  · cases h

theorem chkInt_conforms {mn mx i w} (h : chkInt mn mx i = .ok w) : conforms (.int mn mx) w = true := by
  unfold chkInt at h
  split at h
  · next hs => cases h; simpa only [conforms] using hs
  · cases h

theorem normInt_conforms {mn mx v w} (h : normInt mn mx v = .ok w) : conforms (.int mn mx) w = true := by
  unfold normInt at h
  split at h
  · exact chkInt_conforms h
  · split at h
    · exact chkInt_conforms h
    · cases h
  · exact chkInt_conforms h
  · cases h

theorem normBool_conforms {v w} (h : normBool v = .ok w) : conforms .bool w = true := by
  unfold normBool at h
  repeat' split at h
  all_goals cases h
  all_goals rfl

theorem normFloat_conforms {v w} (h : normFloat v = .ok w) : conforms .float w = true := by
  unfold normFloat at h
  repeat' split at h
  all_goals cases h
  all_goals rfl

mutual
  theorem normalise_conforms : (t : Ty) → t.wf = true → ∀ v w, normalise t v = .ok w → conforms t w = true
    | .str .., _, _, _, h => normStr_conforms (by simpa only [normalise] using h)
    | .int .., _, _, _, h => normInt_conforms (by simpa only [normalise] using h)
    | .bool, _, _, _, h => normBool_conforms (by simpa only [normalise] using h)
    | .float, _, _, _, h => normFloat_conforms (by simpa only [normalise] using h)
    | .list item mn mx, hwf, v, w, h => by
      simp only [normalise] at h
      split at h
      · next xs =>
        split at h
        · next hl =>
          split at h
          · next ys hm =>
            cases h
            obtain ⟨hlen, hall⟩ := mapE_ok hm
            simp only [conforms, hlen, hl, Bool.true_and, List.all_eq_true]
            intro y hy
            obtain ⟨x, _, hx⟩ := hall y hy
            exact normalise_conforms item hwf x y hx
          · cases h
        · cases h
      · cases h
    | .map val, hwf, v, w, h => by
      simp only [normalise] at h
      split at h
      · next kvs =>
        split at h
        · next out hm =>
          cases h
          obtain ⟨_, hall⟩ := mapE_ok hm
          simp only [conforms, List.all_eq_true]
          intro kv' hkv'
          obtain ⟨kv, _, hkv⟩ := hall kv' hkv'
          split at hkv
          · next w' hn => cases hkv; exact normalise_conforms val hwf kv.2 w' hn
          · cases hkv
        · cases h
      · cases h
    | .obj ps, hwf, v, w, h => by
      unfold normalise at h
      split at h
      · next kvs =>
        split at h
        · split at h
          · next out hn => cases h; simpa only [conforms] using (normProps_conforms ps hwf kvs out hn).1
          · cases h
        · cases h
      · match ps, hwf, h with
        | .cons _ _ _ ty .nil, hwf, h =>
          have hwt : ty.wf = true := by
            simp only [Ty.wf, Props.wf, Bool.and_eq_true] at hwf
            exact hwf.1.2
          simp only at h
          split at h
          · next w' hn => cases h; simp [conforms, conformsProps, normalise_conforms ty hwt _ w' hn]
          · cases h
        | .nil, _, h | .cons _ _ _ _ (.cons ..), _, h => cases h
  /-- the second part (the keys of the result are property names) serves the case of an absent property below: the
      first key of the rest cannot be its name -/
  theorem normProps_conforms : (ps : Props) → ps.wf = true → ∀ kvs out, normProps ps kvs = .ok out →
      conformsProps ps out = true ∧ ∀ kv ∈ out, ps.hasName kv.1 = true
    | .nil, _, kvs, out, h => by
      cases h
      exact ⟨rfl, fun kv hkv => nomatch hkv⟩
    | .cons n r d ty rest, hwf, kvs, out, h => by
      simp only [Props.wf, Bool.and_eq_true, Bool.not_eq_true'] at hwf
      obtain ⟨⟨hnot, hwt⟩, hwr⟩ := hwf
      simp only [normProps] at h
      split at h
      · next x hg =>
        split at h
        · cases h
        · next w hn =>
          split at h
          · cases h
          · next out' hr =>
            cases h
            obtain ⟨hc, hk⟩ := normProps_conforms rest hwr kvs out' hr
            exact ⟨by simp [conformsProps, normalise_conforms ty hwt x w hn, hc], (hasName_keys_cons hk).2 w⟩
      · next hg =>
        have hd : d = none := given_eq_none hg
        cases r with
        | true => cases h
        | false =>
          simp only [Bool.false_eq_true, if_false] at h
          obtain ⟨hc, hk⟩ := normProps_conforms rest hwr kvs out h
          refine ⟨?_, (hasName_keys_cons hk).1⟩
          cases out with
          | nil => simpa [conformsProps, hd] using hc
          | cons kv tl =>
            obtain ⟨k, x⟩ := kv
            have hkn : k ≠ n := by
              intro e
              have := hk (k, x) (by simp)
              simp [e, hnot] at this
            simp only [conformsProps, hkn, if_false, hd]
            simpa using hc
end

theorem normProps_congr : (ps : Props) → (kvs kvs' : List (String × Val)) →
    (∀ m, ps.hasName m = true → lookup m kvs = lookup m kvs') → normProps ps kvs = normProps ps kvs'
  | .nil, _, _, _ => rfl
  | .cons n r d ty rest, kvs, kvs', h => by
    simp only [normProps, given, h n (by simp [Props.hasName]),
      normProps_congr rest kvs kvs' fun m hm => h m (by simp [Props.hasName, hm])]

mutual
  theorem conforms_fixed : (t : Ty) → t.wf = true → ∀ w, conforms t w = true → normalise t w = .ok w
    | .str mn mx p, _, w, h => by
      simp only [conforms] at h
      split at h
      · simp only [normalise, normStr, chkStr, h, if_true]
      · cases h
    | .int mn mx, _, w, h => by
      simp only [conforms] at h
      split at h
      · simp only [normalise, normInt, chkInt, h, if_true]
      · cases h
    | .bool, _, w, h | .float, _, w, h => by
      simp only [conforms] at h
      split at h
      · rfl
      · cases h
    | .list item mn mx, hwf, w, h => by
      simp only [conforms] at h
      split at h
      · next xs =>
        simp only [Bool.and_eq_true, List.all_eq_true] at h
        simp only [normalise, h.1, if_true,
          mapE_fixed (normalise item) xs (fun x hx => conforms_fixed item hwf x (h.2 x hx))]
      · cases h
    | .map val, hwf, w, h => by
      simp only [conforms] at h
      split at h
      · next kvs =>
        simp only [List.all_eq_true] at h
        simp only [normalise]
        rw [mapE_fixed _ kvs]
        intro kv hkv
        simp only [conforms_fixed val hwf kv.2 (h kv hkv)]
      · cases h
    | .obj ps, hwf, w, h => by
      simp only [conforms] at h
      split at h
      · next kvs =>
        obtain ⟨hn, hk⟩ := conformsProps_fixed ps hwf kvs h
        simp only [normalise, List.all_eq_true.mpr hk, if_true, hn]
      · cases h
  theorem conformsProps_fixed : (ps : Props) → ps.wf = true → ∀ kvs, conformsProps ps kvs = true →
      normProps ps kvs = .ok kvs ∧ ∀ kv ∈ kvs, ps.hasName kv.1 = true
    | .nil, _, kvs, h => by
      cases kvs with
      | nil => exact ⟨rfl, fun _ hkv => nomatch hkv⟩
      | cons kv tl => cases h
    | .cons n r d ty rest, hwf, kvs, h => by
      simp only [Props.wf, Bool.and_eq_true, Bool.not_eq_true'] at hwf
      obtain ⟨⟨hnot, hwt⟩, hwr⟩ := hwf
      -- a property that is not listed: optional, no default, and not among the keys, which are names of `rest`
      have absent : (!r) = true ∧ d.isNone = true → conformsProps rest kvs = true →
          normProps (.cons n r d ty rest) kvs = .ok kvs ∧ ∀ kv ∈ kvs, (Props.cons n r d ty rest).hasName kv.1 = true := by
        intro hrd hc
        obtain ⟨hn, hk⟩ := conformsProps_fixed rest hwr kvs hc
        simp only [Bool.not_eq_true', Option.isNone_iff_eq_none] at hrd
        have hl : lookup n kvs = none := by
          cases hl : lookup n kvs with
          | none => rfl
          | some x => rw [hk _ (mem_of_lookup hl)] at hnot; cases hnot
        exact ⟨by simp only [normProps, given, hl, hrd.2, hrd.1]; exact hn, (hasName_keys_cons hk).1⟩
      cases kvs with
      | nil =>
        simp only [conformsProps, Bool.and_eq_true] at h
        exact absent h.1 h.2
      | cons kv tl =>
        obtain ⟨k, x⟩ := kv
        simp only [conformsProps] at h
        split at h
        · next hkn =>
          -- the property is listed first: the rest reads `tl`, where no name of `rest` is `n`
          subst hkn
          simp only [Bool.and_eq_true] at h
          obtain ⟨hn, hk⟩ := conformsProps_fixed rest hwr tl h.2
          have hrest : normProps rest ((k, x) :: tl) = .ok tl := by
            rw [normProps_congr rest _ tl fun m hm => ?_, hn]
            have hmk : m ≠ k := fun e => by rw [e, hnot] at hm; cases hm
            simp [lookup, hmk]
          exact ⟨by simp [normProps, given, lookup, conforms_fixed ty hwt x h.1, hrest], (hasName_keys_cons hk).2 x⟩
        · simp only [Bool.and_eq_true] at h
          exact absent h.1 h.2
end

theorem normProps_present : ∀ ps kvs out, normProps ps kvs = .ok out →
    ∀ n' r' d' ty', (n', r', d', ty') ∈ ps.toList → (r' = true ∨ d'.isSome = true) → (lookup n' out).isSome = true
  | .nil, _, _, _, _, _, _, _, hrow, _ => nomatch hrow
  | .cons n r d ty rest, kvs, out, h, n', r', d', ty', hrow, hpres => by
    simp only [normProps] at h
    simp only [Props.toList, List.mem_cons] at hrow
    split at h
    · split at h
      · cases h
      · split at h
        · cases h
        · next out' hr =>
          cases h
          rcases hrow with heq | hrow
          · cases heq; simp [lookup]
          · have := normProps_present rest kvs out' hr n' r' d' ty' hrow hpres
            by_cases e : n' = n
            · simp [lookup, e]
            · simpa [lookup, e] using this
    · next hg =>
      rcases hrow with heq | hrow
      · -- the property is absent, so it has no default and is not required
        cases heq
        cases r <;> simp_all [given_eq_none hg]
      · cases r with
        | true => cases h
        | false => exact normProps_present rest kvs out h n' r' d' ty' hrow hpres

end Arca.Proofs.Ty
