/-
The bookkeeping of finished stages (`loopState.finishedStages`).  `FinishedInv` — a declared stage NOT recorded as finished
has no `resolved` node — is what makes `markRemainingStagesUnresolvable` (repair of finding F11) safe: the graph library
cannot refuse the marking.  It is `Stable`, so only the explicit resolutions of a stage end have to be looked at.
-/
import Arca.Proofs.LoopDag

namespace Arca.Model

/-- node ids of stage nodes are unambiguous: the id the run loop computes for a declared (step, stage) belongs to an
    item of that step and stage.  (Without it an id such as `steps.a.b.c` can be read as step `a`, stage `b.c` by the
    lifecycle of `a` and as step `a.b`, stage `c` by the callback of `a.b`.) -/
def Prepared.StageUnamb (P : Prepared) : Prop :=
  ∀ step stage it, P.declares step stage → lookup (stageNodeId step stage) P.items = some it →
    it.step = step ∧ it.stage = stage

/-- the declared stages outside `f` have no `resolved` node in `g`; `FinishedInv` is this of `s.dag` and `s.finished` -/
def FinOK (P : Prepared) (g : Graph String) (f : List (String × String)) : Prop :=
  ∀ step stage, P.declares step stage → (step, stage) ∉ f →
    ¬ statusIs g (stageNodeId step stage) St.resolved ∧
    ∀ o ∈ P.outputsOf step stage, ¬ statusIs g (outputNodeId step stage o) St.resolved

def FinishedInv (P : Prepared) (s : LoopState) : Prop := FinOK P s.dag s.finished

/-- no node of a declared stage is newly `resolved` from `g` to `g'` -/
def DeclNoNew (P : Prepared) (g g' : Graph String) : Prop :=
  ∀ step stage, P.declares step stage →
    (statusIs g' (stageNodeId step stage) St.resolved → statusIs g (stageNodeId step stage) St.resolved) ∧
    ∀ o ∈ P.outputsOf step stage,
      statusIs g' (outputNodeId step stage o) St.resolved → statusIs g (outputNodeId step stage o) St.resolved

theorem DeclNoNew.resolve {P : Prepared} {g g' : Graph String} {id : String} {st : St}
    (hok : g.resolve id st = .ok g')
    (hid : ∀ step stage, P.declares step stage →
      id ≠ stageNodeId step stage ∧ ∀ o ∈ P.outputsOf step stage, id ≠ outputNodeId step stage o) :
    DeclNoNew P g g' := by
  intro step stage hd
  refine ⟨fun hx => ?_, fun o ho hx => ?_⟩
  · rcases resolve_newRes hok hx with ⟨heq, _⟩ | h
    · exact absurd heq.symm (hid step stage hd).1
    · exact h
  · rcases resolve_newRes hok hx with ⟨heq, _⟩ | h
    · exact absurd heq.symm ((hid step stage hd).2 o ho)
    · exact h

theorem FinOK.mono {P : Prepared} {g g' : Graph String} {f f' : List (String × String)} (h : FinOK P g f)
    (hn : DeclNoNew P g g') (hf : ∀ x ∈ f, x ∈ f') : FinOK P g' f' := by
  intro step stage hd hnm
  obtain ⟨h1, h2⟩ := h step stage hd (fun hm => hnm (hf _ hm))
  exact ⟨fun hx => h1 ((hn step stage hd).1 hx), fun o ho hx => h2 o ho ((hn step stage hd).2 o ho hx)⟩

/-- `id` is a node of the stage: its stage node, or the node of one of its declared outputs -/
def Owns (P : Prepared) (step stage id : String) : Prop :=
  id = stageNodeId step stage ∨ ∃ o ∈ P.outputsOf step stage, id = outputNodeId step stage o

/-- the item of a node of a declared stage names that stage: a node belongs to one declared stage only -/
theorem Owns.item {P : Prepared} (hP : P.WF) (hun : P.StageUnamb) {step stage id : String} {it : Item}
    (hd : P.declares step stage) (h : Owns P step stage id) (hit : lookup id P.items = some it) :
    it.step = step ∧ it.stage = stage := by
  rcases h with rfl | ⟨o, ho, rfl⟩
  · exact hun step stage it hd hit
  · exact hP.output_unamb step stage o it hd ho hit (hP.output_kind step stage o it hd ho hit)

/-- resolving a node of a stage recorded as finished -/
theorem FinOK.resolve {P : Prepared} (hP : P.WF) (hun : P.StageUnamb) {g g' : Graph String}
    {f : List (String × String)} (hids : g.nodes.map (·.id) = P.dag.nodes.map (·.id)) (h : FinOK P g f)
    {step prev id : String} (hdecl : P.declares step prev) (hown : Owns P step prev id) (hmem : (step, prev) ∈ f)
    (hok : g.resolve id St.resolved = .ok g') : FinOK P g' f := by
  have hids' : g'.nodes.map (·.id) = P.dag.nodes.map (·.id) := (Graph.resolve_frame g g' _ _ hok).2.trans hids
  -- the node newly resolved has one item, which names (step, prev) and the stage of any other owner
  have key : ∀ {step' stage' x}, P.declares step' stage' → (step', stage') ∉ f → Owns P step' stage' x →
      statusIs g' x St.resolved → statusIs g x St.resolved := by
    intro step' stage' x hd' hnf hx hres
    refine (resolve_newRes hok hres).resolve_left fun ⟨heq, _⟩ => ?_
    obtain ⟨it, hit⟩ := item_of_node hP.items_nodes hids' hres.choose_spec.1
    obtain ⟨a1, a2⟩ := hx.item hP hun hd' hit
    obtain ⟨b1, b2⟩ := (heq ▸ hown).item hP hun hdecl hit
    exact hnf (by rw [← a1, ← a2, b1, b2]; exact hmem)
  intro step' stage' hd' hnf
  obtain ⟨h1, h2⟩ := h step' stage' hd' hnf
  exact ⟨fun hx => h1 (key hd' hnf (.inl rfl) hx), fun o ho hx => h2 o ho (key hd' hnf (.inr ⟨o, ho, rfl⟩) hx)⟩

theorem FinOK.resolve_stage {P : Prepared} (hP : P.WF) (hun : P.StageUnamb) {g g' : Graph String}
    {f : List (String × String)} (hids : g.nodes.map (·.id) = P.dag.nodes.map (·.id)) (h : FinOK P g f)
    {step prev : String} (hdecl : P.declares step prev)
    (hok : g.resolve (stageNodeId step prev) St.resolved = .ok g') : FinOK P g' ((step, prev) :: f) :=
  (h.mono (fun _ _ _ => ⟨id, fun _ _ => id⟩) fun _ => List.mem_cons_of_mem _).resolve hP hun hids hdecl (.inl rfl)
    List.mem_cons_self hok

section Steps
variable {P : Prepared}

theorem finishedInv_stable (hP : P.WF) : Stable P (FinishedInv P) := fun a b c hf =>
  FinOK.mono hf (fun step stage hd => ⟨fun hx => (c.newres _ hx).resolve_right (stage_not_proc hP hd),
    fun o ho hx => (c.newres _ hx).resolve_right (stageOutput_not_proc hP hd ho)⟩)
    (fun x hx => by rw [c.fin]; exact hx)

end Steps

section React
variable {P : Prepared}

theorem FinishedInv.afterOutput (hP : P.WF) (hun : P.StageUnamb) {r : R} {step prev oid : String} {g g2 : Graph String}
    (hinv : r.1.dag.Inv) (hids : r.1.dag.nodes.map (·.id) = P.dag.nodes.map (·.id)) (hf : FinishedInv P r.1)
    (hdecl : P.declares step prev) (hoid : oid ∈ P.outputsOf step prev)
    (hok : r.1.dag.resolve (stageNodeId step prev) .resolved = .ok g)
    (hok2 : g.resolve (outputNodeId step prev oid) .resolved = .ok g2) :
    FinishedInv P (markOutputsUnres P step prev (some oid) (stageDone step prev g2 r)).1 := by
  have hle := GLe.resolve hinv hok
  have hf2 : FinishedInv P (stageDone step prev g2 r).1 :=
    (FinOK.resolve_stage hP hun hids hf hdecl hok).resolve hP hun (hle.ids.trans hids) hdecl (.inr ⟨oid, hoid, rfl⟩)
      List.mem_cons_self hok2
  exact finishedInv_stable hP _ _
    (markOutputsUnres_quiet step prev (some oid) _ (GLe.resolve hle.inv hok2).inv).calm hf2

theorem onStageCompleteBody_fin (hP : P.WF) (hun : P.StageUnamb) (fns : Fns) (ord : Order) (step prev : String)
    (out : Option (String × Val)) (complete : Bool) (r : R) (hinv : r.1.dag.Inv)
    (hids : r.1.dag.nodes.map (·.id) = P.dag.nodes.map (·.id)) (hf : FinishedInv P r.1) (hdecl : P.declares step prev)
    (hout : ∀ oid v, out = some (oid, v) → oid ∈ P.outputsOf step prev) :
    FinishedInv P (onStageCompleteBody P fns ord step prev out complete r).1 := by
  generalize hr : onStageCompleteBody P fns ord step prev out complete r = r'
  have hJ := finishedInv_stable hP
  cases stageEnd_of_eq hr with
  | abort _ ha => exact hJ _ _ (ha.calm hinv) hf
  | noOutput hok =>
    exact hJ _ _ (finishStage_calm (r := stageDone step prev _ r) (GLe.resolve hinv hok).inv step complete)
      (FinOK.resolve_stage hP hun hids hf hdecl hok)
  | abortOutput hok _ ha =>
    exact hJ _ _ (ha.calm (r := stageDone step prev _ r) (GLe.resolve hinv hok).inv) (FinOK.resolve_stage hP hun hids hf hdecl hok)
  | markDied hok hok2 _ => exact hf.afterOutput hP hun hinv hids hdecl (hout _ _ rfl) hok hok2
  | output hok hok2 _ =>
    exact hJ _ _ (finishStage_calm (r := withStageData step prev _ _ _)
        (markOutputsUnres_quiet step prev _ _ (GLe.resolve (GLe.resolve hinv hok).inv hok2).inv).gle.inv
        step complete)
      (hf.afterOutput hP hun hinv hids hdecl (hout _ _ rfl) hok hok2)

theorem react_finished_inv (P : Prepared) (fns : Fns) (ord : Order) (hP : P.WF) (hun : P.StageUnamb) (s : LoopState)
    (e : Event) (h : LoopDagInv P s) (hf : FinishedInv P s) (hev : EventDeclared P e) :
    FinishedInv P (react P fns ord s e).1 := by
  refine (finishedInv_stable hP).react fns ord h.inv hf ?_ fun step prev out busy complete he =>
    onStageCompleteBody_fin hP hun fns ord step prev out complete (s, []) h.inv h.ids hf (he ▸ hev).stageEnd.1
      (he ▸ hev).stageEnd.2
  -- `start`: `input` is no node of a declared stage
  rintro input rfl
  have hf0 : FinishedInv P { s with data := initData P input, dag := s.dag.pushStarting } :=
    FinOK.mono hf (fun _ _ _ => ⟨id, fun _ _ => id⟩) (fun _ h => h)
  exact ⟨hf0, fun g hok => FinOK.mono hf0 (DeclNoNew.resolve hok fun step stage _ =>
    ⟨input_ne_stageNodeId _ _, fun o _ => input_ne_outputNodeId _ _ _⟩) (fun _ h => h)⟩

theorem init_finished_inv (P : Prepared) (hP : P.WF) : FinishedInv P (LoopState.init P) :=
  fun _ _ _ _ => ⟨init_not_resolved P hP _, fun _ _ => init_not_resolved P hP _⟩

end React

end Arca.Model
