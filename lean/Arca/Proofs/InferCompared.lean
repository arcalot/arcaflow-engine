/-
The differential `arcadrv infer` compares the acceptance verdict of model and code only when `leafConsistent` holds.
This file shows that the comparison is never skipped where the soundness theorem speaks: whatever an inferred type
accepts is leaf-consistent with it, hence every homogeneous literal is compared.
-/
import Arca.Proofs.InferSound

namespace Arca.Proofs.InferCompared
open Arca.Model.Infer Arca.Proofs.InferSound

mutual
  theorem lc_of_accepts : (t : ITy) → (v : Lit) → accepts t v = true → leafConsistent t v = true
    | .str, v, h | .int .., v, h | .float, v, h | .bool, v, h => by
      cases v <;> simp [accepts] at h; simp [leafConsistent, infer, ITy.tid]
    | .list t, v, h => by
      cases v with
      | list xs => simp only [accepts] at h; simp only [leafConsistent]; exact lc_all t xs h
      | _ => simp [accepts] at h
    | .obj ps, v, h => by
      cases v with
      | obj fs => simp only [accepts] at h; simp only [leafConsistent]; exact lc_obj ps fs h
      | _ => simp [accepts] at h
  theorem lc_all (t : ITy) : (xs : Lits) → acceptsAll t xs = true → leafConsistentAll t xs = true
    | .nil, _ => by simp [leafConsistentAll]
    | .cons x rest, h => by
      simp only [acceptsAll, Bool.and_eq_true] at h
      simp only [leafConsistentAll, Bool.and_eq_true]
      exact ⟨lc_of_accepts t x h.1, lc_all t rest h.2⟩
  theorem lc_obj : (ps : IProps) → (fs : Fields) → acceptsObj ps fs = true → leafConsistentObj ps fs = true
    | .nil, .nil, _ => by simp [leafConsistentObj]
    | .nil, .cons _ _ _, h => by simp [acceptsObj] at h
    | .cons _ _ _, .nil, h => by simp [acceptsObj] at h
    | .cons n t ps, .cons k v fs, h => by
      simp only [acceptsObj, Bool.and_eq_true, decide_eq_true_eq] at h
      simp only [leafConsistentObj, h.1.1, if_true, Bool.and_eq_true]
      exact ⟨lc_of_accepts t v h.1.2, lc_obj ps fs h.2⟩
end

end Arca.Proofs.InferCompared
