/-
The handle layer of `Model/DgraphExt.lean` (what `arcadrv dgraph` runs against the real library) is the core model
`Model/Dgraph.lean` on every graph that is built with the core operations only: its two deviations
(`Graph.connectOver`, `Graph.normRes`) need `Remove` / `Disconnect*`, `Graph.Tidy` is kept by every core operation, and
on tidy graphs the two layers agree.  So the differential check of the handle layer is one of the core model.
-/
import Arca.Proofs.DgraphStep
import Arca.Model.DgraphExt

set_option linter.unusedSectionVars false

namespace Arca.Model

variable {ι : Type} [DecidableEq ι]

/-- `Graph.hasEdge` on a bare edge list: `g.hasEdge a b` unfolds to `hasE g.edges a b` (`tidy_connect`,
`connectOver_eq_connect` pass from one to the other that way) -/
def hasE (E : List (ι × ι × Dep)) (a b : ι) : Bool := E.any (fun e => e.1 = a ∧ e.2.1 = b)

theorem hasE_append {E E' : List (ι × ι × Dep)} {a b : ι} (h : hasE E a b = true) : hasE (E ++ E') a b = true := by
  unfold hasE at *
  rw [List.any_append, h, Bool.true_or]

structure NodeTidy (E : List (ι × ι × Dep)) (n : Node ι) : Prop where
  out_edge : ∀ p ∈ n.out, hasE E p.1 n.id = true
  res_edge : ∀ p ∈ n.res, hasE E p.1 n.id = true
  res_nodup : (keys n.res).Nodup
  disj : ∀ a ∈ keys n.out, a ∉ keys n.res

def Graph.Tidy (g : Graph ι) : Prop := ∀ n ∈ g.nodes, NodeTidy g.edges n

theorem NodeTidy.mono {E E' : List (ι × ι × Dep)} {n : Node ι} (h : NodeTidy E n) : NodeTidy (E ++ E') n :=
  ⟨fun p hp => hasE_append (h.out_edge p hp), fun p hp => hasE_append (h.res_edge p hp), h.res_nodup, h.disj⟩

theorem NodeTidy.status {E : List (ι × ι × Dep)} {n : Node ι} (h : NodeTidy E n) (st : St) :
    NodeTidy E { n with status := st } :=
  ⟨h.out_edge, h.res_edge, h.res_nodup, h.disj⟩

theorem Graph.Tidy.setNode {g : Graph ι} (h : g.Tidy) {n' : Node ι} (hn : NodeTidy g.edges n') (r : List ι) :
    ({ g.setNode n' with ready := r } : Graph ι).Tidy := by
  intro m hm
  have hm' : m ∈ (g.setNode n').nodes := hm
  rcases Graph.mem_setNode hm' with ⟨hmem, _⟩ | rfl
  · exact h m hmem
  · exact hn

theorem Graph.tidy_addNode {g g' : Graph ι} {id : ι} (h : g.Tidy) (hok : g.addNode id = .ok g') : g'.Tidy := by
  obtain ⟨_, rfl⟩ := Graph.addNode_success hok
  intro m hm
  rcases List.mem_append.1 hm with hm | hm
  · exact h m hm
  · cases List.mem_singleton.1 hm
    exact ⟨nofun, nofun, List.nodup_nil, nofun⟩

theorem Graph.tidy_connect {g g' : Graph ι} {src dst : ι} {d : Dep} (h : g.Tidy)
    (hok : g.connect src dst d = .ok g') : g'.Tidy := by
  obtain ⟨m, n, hm, hn, hne, hedge, rfl⟩ := Graph.connect_success hok
  obtain ⟨hnmem, hnid⟩ := Graph.find?_some hn
  have hnt := h n hnmem
  have hnew : hasE (g.edges ++ [(src, dst, d)]) src dst = true := by
    unfold hasE
    simp
  have hedge' : hasE g.edges src n.id = false := hnid ▸ hedge
  have hsrc : src ∉ keys n.res := by
    intro hs
    obtain ⟨p, hp, rfl⟩ := mem_keys.1 hs
    have := hnt.res_edge p hp
    rw [hedge'] at this
    cases this
  intro k hk
  have hk' : k ∈ (({ g with edges := g.edges ++ [(src, dst, d)] } : Graph ι).setNode
      { n with out := n.out ++ [(src, d)] }).nodes := hk
  rcases Graph.mem_setNode hk' with ⟨hmem, _⟩ | rfl
  · exact (h k hmem).mono
  · refine ⟨?_, fun p hp => hasE_append (hnt.res_edge p hp), hnt.res_nodup, ?_⟩
    · intro p hp
      simp only [List.mem_append, List.mem_singleton] at hp
      rcases hp with hp | rfl
      · exact hasE_append (hnt.out_edge p hp)
      · simpa [hnid] using hnew
    · intro a ha
      simp only [keys_append, List.mem_append] at ha
      rcases ha with ha | ha
      · exact hnt.disj a ha
      · simp only [keys, List.map_cons, List.map_nil, List.mem_singleton] at ha
        subst ha
        exact hsrc

/-- `NodeTidy` only looks at the id and at the keys of the two lists, which `DepStep.facts` describes -/
theorem DepStep.nodeTidy {g : Graph ι} {n n' : Node ι} {s : ι} {st : St} {dt : Dep} {r' : List ι} {turned : Bool}
    (hn : NodeTidy g.edges n) (hs : alookup s n.out = some dt) (h : DepStep g n s st dt n' r' turned) :
    NodeTidy g.edges n' := by
  obtain ⟨hid, _, hres, _⟩ := h.facts
  have hsmem : (s, dt) ∈ n.out := alookup_some_mem hs
  have hedge : ∀ p ∈ n'.out, hasE g.edges p.1 n'.id = true := fun p hp => by
    obtain ⟨q, hq, hqp⟩ := mem_keys.1 (h.mem_out.1 (mem_keys_of_mem hp)).1
    exact hid ▸ hqp ▸ hn.out_edge q hq
  have hdisj : ∀ a ∈ keys n'.out, a ∉ keys n'.res := fun a ha har =>
    (h.mem_res.1 har).elim (hn.disj a (h.mem_out.1 ha).1) fun h' => (h.mem_out.1 ha).2 h'.2
  by_cases hr : st = .resolved
  · rw [if_pos hr] at hres
    refine ⟨hedge, fun p hp => ?_, ?_, hdisj⟩
    · rcases List.mem_append.1 (hres ▸ hp) with hp | hp
      · exact hid ▸ hn.res_edge p hp
      · exact hid ▸ List.mem_singleton.1 hp ▸ hn.out_edge _ hsmem
    · rw [hres, keys_append]
      exact hn.res_nodup.concat (hn.disj s (mem_keys_of_mem hsmem))
  · rw [if_neg hr] at hres
    exact ⟨hedge, fun p hp => hid ▸ hn.res_edge p (hres ▸ hp), hres ▸ hn.res_nodup, hdisj⟩

theorem Graph.tidy_depResolved {g g' : Graph ι} {t s : ι} {st : St} {turned : Bool} (h : g.Tidy)
    (hok : g.depResolved t s st = .ok (g', turned)) : g'.Tidy := by
  obtain ⟨n, dt, n', r', hn, _, hdt, rfl, hstep⟩ := Graph.depResolved_ok hok
  exact h.setNode (hstep.nodeTidy (h n (Graph.find?_some hn).1) hdt) r'

theorem Graph.tidy_resolve {g g' : Graph ι} {id : ι} {st : St} (h : g.Tidy) (hok : g.resolve id st = .ok g') :
    g'.Tidy :=
  Graph.resolve_induction (P := fun g _ => g.Tidy) hok h
    (fun n hn _ _ => h.setNode ((h n (Graph.find?_some hn).1).status st) g.ready) Graph.tidy_depResolved

/-- the graphs the engine can build: everything reachable from the empty graph with the operations of `Model/Dgraph.lean` -/
inductive Graph.Built : Graph ι → Prop
  | empty : Graph.Built Graph.empty
  | addNode {g g' : Graph ι} {id : ι} : Graph.Built g → g.addNode id = .ok g' → Graph.Built g'
  | connect {g g' : Graph ι} {src dst : ι} {d : Dep} : Graph.Built g → g.connect src dst d = .ok g' → Graph.Built g'
  | pushStarting {g : Graph ι} : Graph.Built g → Graph.Built g.pushStarting
  | popReady {g : Graph ι} : Graph.Built g → Graph.Built g.popReady.2
  | resolve {g g' : Graph ι} {id : ι} {st : St} : Graph.Built g → g.resolve id st = .ok g' → Graph.Built g'
  | clone {g : Graph ι} : Graph.Built g → Graph.Built g.clone

theorem Graph.Built.tidy {g : Graph ι} (h : g.Built) : g.Tidy := by
  induction h with
  | empty => exact fun _ h => nomatch h
  | addNode _ hok ih => exact Graph.tidy_addNode ih hok
  | connect _ hok ih => exact Graph.tidy_connect ih hok
  | resolve _ hok ih => exact Graph.tidy_resolve ih hok
  | pushStarting _ ih | popReady _ ih | clone _ ih => exact ih

theorem foldl_dedup (l acc : List (ι × Dep)) (h : (keys (acc ++ l)).Nodup) :
    l.foldl (fun acc p => aerase p.1 acc ++ [p]) acc = acc ++ l := by
  induction l generalizing acc with
  | nil => simp
  | cons p l ih =>
    have hp : p.1 ∉ keys acc := by
      intro hmem
      rw [keys_append] at h
      have := (List.nodup_append.1 h).2.2 p.1 hmem p.1 (by simp [keys])
      exact this rfl
    simp only [List.foldl_cons]
    rw [aerase_eq_self hp, ih]
    · simp
    · simpa using h

theorem dedupLast_eq_self {l : List (ι × Dep)} (h : (keys l).Nodup) : dedupLast l = l := by
  unfold dedupLast
  rw [foldl_dedup l [] (by simpa using h)]
  simp

theorem Graph.normRes_eq_self {g : Graph ι} (h : g.Tidy) : g.normRes = g := by
  unfold Graph.normRes
  have : g.nodes.map (fun n => ({ n with res := dedupLast n.res } : Node ι)) = g.nodes := by
    conv => rhs; rw [← List.map_id g.nodes]
    apply List.map_congr_left
    intro n hn
    rw [dedupLast_eq_self (h n hn).res_nodup]
    rfl
  rw [this]

theorem Graph.connect_of_hasEdge {g : Graph ι} {src dst : ι} (hd : g.has dst = true)
    (he : g.hasEdge src dst = true) (d : Dep) :
    g.connect src dst d =
      if g.has src then (if src = dst then .error (.connectSelf src) else .error (.connectionExists src dst))
      else .error (.notFound src) := by
  obtain ⟨n, hn⟩ := Graph.has_iff.1 hd
  unfold Graph.connect Graph.has
  rw [hn]
  cases g.find? src with
  | none => rfl
  | some m => simp only [he, if_true, Option.isSome_some]

theorem Graph.connectOver_eq_connect {g : Graph ι} (h : g.Tidy) (src dst : ι) (d : Dep) :
    g.connectOver src dst d = g.connect src dst d := by
  unfold Graph.connectOver
  split
  · rfl
  next n hn =>
  split
  · rfl
  next dt hdt =>
  -- an outstanding entry for `src` means that the connection exists: both sides refuse, with the same error
  obtain ⟨hnmem, hnid⟩ := Graph.find?_some hn
  have hedge : g.hasEdge src dst = true := hnid ▸ (h n hnmem).out_edge _ (alookup_some_mem hdt)
  have hd : g.has dst = true := Graph.has_iff.2 ⟨n, hn⟩
  rw [Graph.connect_of_hasEdge ((Graph.has_setNode g _ dst).trans hd) hedge, Graph.connect_of_hasEdge hd hedge,
    Graph.has_setNode]
  split <;> exact Eq.symm ‹_›

def HGraph.ofGraph (g : Graph ι) : HGraph ι := ⟨g, []⟩

def liftG (x : Except (DgErr ι) (Graph ι)) : Except (HErr ι) (HGraph ι) :=
  match x with
  | .ok g => .ok (HGraph.ofGraph g)
  | .error e => .error (.dg e)

theorem HGraph.addNode_core (g : Graph ι) (id : ι) : (HGraph.ofGraph g).addNode id = liftG (g.addNode id) := by
  unfold HGraph.addNode liftG HGraph.ofGraph
  cases g.addNode id <;> simp

theorem HGraph.connect_core {g : Graph ι} (h : g.Tidy) (src dst : ι) (d : Dep) :
    (HGraph.ofGraph g).connect src dst d = liftG (g.connect src dst d) := by
  unfold HGraph.connect liftG HGraph.ofGraph
  simp only
  rw [Graph.connectOver_eq_connect h]
  cases g.connect src dst d <;> simp

theorem HGraph.resolve_core {g : Graph ι} (h : g.Tidy) (id : ι) (st : St) :
    (HGraph.ofGraph g).resolve id st = liftG (g.resolve id st) := by
  unfold HGraph.resolve liftG HGraph.ofGraph
  simp only
  by_cases hh : g.has id = true
  · simp only [hh, ↓reduceIte]
    cases hr : g.resolve id st with
    | error e => rfl
    | ok g' => simp [Graph.normRes_eq_self (Graph.tidy_resolve h hr)]
  · have hnone : g.find? id = none := Graph.has_false_iff.1 (by simpa using hh)
    simp [hh, HGraph.isDead, Graph.resolve_notFound hnone st]

/--
For every graph the engine can build (core operations only, in any order, with any arguments) the handle layer that
`arcadrv dgraph` compares with the real library computes exactly the core operations - `PushStartingNodes`, `PopReadyNodes`,
`HasReadyNodes`, `HasCycles`, `Clone` are the core functions by definition of the driver.
-/
theorem HGraph.agrees_on_built {g : Graph ι} (hb : g.Built) :
    (∀ id, (HGraph.ofGraph g).addNode id = liftG (g.addNode id)) ∧
    (∀ src dst d, (HGraph.ofGraph g).connect src dst d = liftG (g.connect src dst d)) ∧
    (∀ id st, (HGraph.ofGraph g).resolve id st = liftG (g.resolve id st)) :=
  ⟨HGraph.addNode_core g, HGraph.connect_core hb.tidy, HGraph.resolve_core hb.tidy⟩

/-- non-vacuity: the deviation is real once `Remove` is used (DESIGN.md 15.8b) -/
example :
    let g0 : Graph Nat := ⟨[⟨0, .waiting, [], [(2, .or)]⟩, ⟨2, .waiting, [], []⟩], [], []⟩
    (match g0.connectOver 2 0 .and with
      | .ok g1 => (match g1.resolve 2 .resolved with
        | .ok g2 => (g2.statusOf 0, (g2.find? 0).map (·.res), (g2.normRes.find? 0).map (·.res))
        | .error _ => (none, none, none))
      | .error _ => (none, none, none)) =
    (some St.waiting, some [(2, .or), (2, .and)], some [(2, .and)]) := by decide

end Arca.Model
